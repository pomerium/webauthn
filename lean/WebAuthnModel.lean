-- Root of the `WebAuthnModel` library: model, specs, proofs and property theorems.
import WebAuthnModel.Basic.Bytes
import WebAuthnModel.Basic.Utf8
import WebAuthnModel.Basic.Base64Url
import WebAuthnModel.Basic.Base64Std
import WebAuthnModel.Cbor.Value
import WebAuthnModel.Cbor.Semantic
import WebAuthnModel.Cbor.Struct
import WebAuthnModel.Cbor.AttObj
import WebAuthnModel.Model.Json
import WebAuthnModel.Model.Jws
import WebAuthnModel.Model.Prog
import WebAuthnModel.Model.AuthData
import WebAuthnModel.Model.Cose
import WebAuthnModel.Model.Origin
import WebAuthnModel.Model.Attestation
import WebAuthnModel.Model.Ceremony
import WebAuthnModel.Model.History
import WebAuthnModel.Model.Tpm
import WebAuthnModel.Model.Tpm2
import WebAuthnModel.Model.Fido
import WebAuthnModel.Model.Wire
import WebAuthnModel.Spec.Cose
import WebAuthnModel.Spec.AuthData
import WebAuthnModel.Spec.Ceremony
import WebAuthnModel.Spec.Attestation
import WebAuthnModel.Spec.History
import WebAuthnModel.Spec.Tpm
import WebAuthnModel.Spec.Wire
import WebAuthnModel.Proofs.BytesLemmas
import WebAuthnModel.Proofs.Run
import WebAuthnModel.Proofs.CborFrame
import WebAuthnModel.Proofs.Base64
import WebAuthnModel.Proofs.Origin
import WebAuthnModel.Proofs.CoseEncode
import WebAuthnModel.Proofs.JsonLemmas
import WebAuthnModel.Proofs.Tpm2Lemmas
import WebAuthnModel.Proofs.SanLemmas
import WebAuthnModel.Proofs.JwsLemmas
import WebAuthnModel.Proofs.X509SigLemmas
import WebAuthnModel.Theorems.C01
import WebAuthnModel.Theorems.C01Json
import WebAuthnModel.Theorems.C02
import WebAuthnModel.Theorems.C01Absent
import WebAuthnModel.Theorems.C06
import WebAuthnModel.Theorems.C07
import WebAuthnModel.Theorems.C08
import WebAuthnModel.Theorems.C10
import WebAuthnModel.Theorems.C10AttObj
import WebAuthnModel.Theorems.C11
import WebAuthnModel.Theorems.C12
import WebAuthnModel.Theorems.C13
import WebAuthnModel.Theorems.C15
import WebAuthnModel.Theorems.C15Roots
import WebAuthnModel.Theorems.C17
import WebAuthnModel.Theorems.C17Asn1
import WebAuthnModel.Theorems.C17San
import WebAuthnModel.Model.Url
import WebAuthnModel.Theorems.C13Url
import WebAuthnModel.Theorems.C03
import WebAuthnModel.Theorems.C04
import WebAuthnModel.Theorems.C04X509
import WebAuthnModel.Theorems.C04Jws
import WebAuthnModel.Theorems.C04Tpm2
import WebAuthnModel.Theorems.C09
import WebAuthnModel.Theorems.C09Work
import WebAuthnModel.Theorems.C16
import WebAuthnModel.Generated.Wire
import WebAuthnModel.Generated.Effects
import WebAuthnModel.Theorems.C14
