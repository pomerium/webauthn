import WebAuthnModel.Spec.Asn1
import WebAuthnModel.Proofs.Asn1Int
import WebAuthnModel.Proofs.Asn1Header
/-
  The struct layer of the `encoding/asn1` model (Model/Asn1.lean), for any schema.  Every cursor function is unfolded
  once its header is known (`parseField_of_parseTL`,
  `unmarshalStruct_of_parseTL`), headers come from `parseTL_tlv`; round trips are proved member by member
  (`plain_roundtrip`, `opt_roundtrip`, `struct_roundtrip`), and the converse lemmas (`*_some`) say what a successful
  decoding tells about the input.  INTEGER contents: Asn1Int.lean; identifier and length octets: Asn1Header.lean;
  the Keymaster schemas: KeyDescLemmas.lean.
-/
namespace WebAuthn.Proofs.Asn1Lemmas
open WebAuthn WebAuthn.Asn1 WebAuthn.Spec.Asn1

variable {σ : Type} (sub : String → Option (SubOps σ))

/-! ## fuel of `parseInts` -/

theorem parseInts_fuel_gen (n m : Nat) (b : Bytes) (hn : b.length ≤ n) (hm : b.length ≤ m) :
    parseInts n b = parseInts m b := by
  induction n generalizing m b with
  | zero =>
    obtain rfl : b = [] := List.eq_nil_of_length_eq_zero (by omega)
    cases m <;> rfl
  | succ n ih =>
    rcases b with _ | ⟨x, xs⟩
    · cases m <;> rfl
    obtain ⟨m, rfl⟩ : ∃ m', m = m' + 1 := ⟨m - 1, by simp at hm; omega⟩
    simp only [parseInts]
    split
    · rfl
    · rename_i t r htl
      have hlt := parseTL_length_lt _ _ _ htl
      rw [ih m (r.drop t.len) (by rw [List.length_drop]; omega) (by rw [List.length_drop]; omega)]

/-! ## `parseField` on a present / skipped member -/

/-- the `go` closure of `parseField` -/
def pfGo (f : Field) (dflt : Option (FV σ × Bytes)) (t : TL) (r : Bytes) :
    Option (FV σ × Bytes) :=
  if t.cls ≠ 0 ∨ t.tag ≠ (universal f).1 ∨ t.compound ≠ (universal f).2 then dflt
  else if t.len > r.length then none
  else (parseContents sub f.ty (r.take t.len)).map (·, r.drop t.len)

def pfDflt (f : Field) (b : Bytes) : Option (FV σ × Bytes) :=
  if f.optional then (zeroOf sub f.ty).map (·, b) else none

/-- `parseField` once the header `t` under the cursor has been read (`r` follows it) -/
def pfElem (f : Field) (b : Bytes) (t : TL) (r : Bytes) : Option (FV σ × Bytes) :=
  if f.explicit then
    if r = [] then none
    else if t.cls = 2 ∧ some t.tag = f.tag ∧ (t.len = 0 ∨ t.compound) then
      if t.len > 0 then
        match parseTL r with
        | none => none
        | some (t', r') => pfGo sub f (pfDflt sub f b) t' r'
      else if f.ty = .flag then some (.prim (.bool true), r)
      else none
    else pfDflt sub f b
  else pfGo sub f (pfDflt sub f b) t r

theorem parseField_nil (f : Field) :
    parseField sub f [] = pfDflt sub f [] := rfl

theorem parseField_of_parseTL (f : Field) {b r : Bytes} {t : TL}
    (h : parseTL b = some (t, r)) : parseField sub f b = pfElem sub f b t r := by
  obtain ⟨x, xs, rfl⟩ := exists_cons_of_parseTL h
  simp only [parseField, h]
  rfl

theorem universal_lt (f : Field) : (universal f).1 < 31 := by
  unfold universal
  split <;> simp <;> split <;> omega

/-- the member's own universal element around the contents `body` -/
def innerOf (f : Field) (body : Bytes) : Bytes := tlv 0 (universal f).2 (universal f).1 body

theorem parseTL_innerOf (f : Field) (body rest : Bytes) (h : body.length < 2 ^ 31) :
    parseTL (innerOf f body ++ rest) = some (⟨0, (universal f).2, (universal f).1, body.length⟩, body ++ rest) :=
  parseTL_tlv _ _ _ _ _ (by omega) (by have := universal_lt f; omega) h

theorem innerOf_length (f : Field) (body : Bytes) :
    body.length + 2 ≤ (innerOf f body).length ∧ (innerOf f body).length ≤ body.length + 15 :=
  tlv_length_le _ _ _ _ (by have := universal_lt f; omega)

theorem innerOf_ne_nil (f : Field) (body : Bytes) : innerOf f body ≠ [] := fun e => by
  have := innerOf_length f body
  rw [e] at this; simp at this

/-- the element under the cursor is this member's own universal element -/
theorem pfGo_match (f : Field) (dflt : Option (FV σ × Bytes))
    (body rest : Bytes) (v : FV σ) (hpc : parseContents sub f.ty body = some v) :
    pfGo sub f dflt ⟨0, (universal f).2, (universal f).1, body.length⟩ (body ++ rest) = some (v, rest) := by
  rw [pfGo, if_neg (by simp), if_neg (by simp)]
  simp [hpc]

/-- an untagged member, present -/
theorem parseField_plain (f : Field) (body rest : Bytes) (v : FV σ)
    (hex : f.explicit = false) (hlen : body.length < 2 ^ 31) (hpc : parseContents sub f.ty body = some v) :
    parseField sub f (innerOf f body ++ rest) = some (v, rest) := by
  rw [parseField_of_parseTL sub f (parseTL_innerOf f body rest hlen), pfElem, hex]
  exact pfGo_match sub f _ body rest v hpc

/-- a `tag:N,explicit` member, present -/
theorem parseField_explicit (f : Field) (tg : Nat) (body rest : Bytes) (v : FV σ)
    (hex : f.explicit = true) (htag : f.tag = some tg) (htg : tg < 2 ^ 31) (hlen : (innerOf f body).length < 2 ^ 31)
    (hpc : parseContents sub f.ty body = some v) :
    parseField sub f (tlv 2 true tg (innerOf f body) ++ rest) = some (v, rest) := by
  have hl := innerOf_length f body
  rw [parseField_of_parseTL sub f (parseTL_tlv _ _ _ _ _ (by omega) htg hlen), pfElem, if_pos hex,
    if_neg (List.append_ne_nil_of_left_ne_nil (innerOf_ne_nil f body) rest), if_pos ⟨rfl, htag.symm, Or.inr rfl⟩,
    if_pos (by simp; omega),
    parseTL_innerOf f body rest (by omega)]
  exact pfGo_match sub f _ body rest v hpc

/-- an optional `tag:N,explicit` member looking at an element with another context tag: default, cursor unmoved -/
theorem parseField_skip (f : Field) (tg tg' : Nat) (c rest : Bytes)
    (hex : f.explicit = true) (htag : f.tag = some tg) (hne : tg' ≠ tg) (htg : tg' < 2 ^ 31) (hc : c.length < 2 ^ 31)
    (hc0 : c ≠ []) :
    parseField sub f (tlv 2 true tg' c ++ rest) = pfDflt sub f (tlv 2 true tg' c ++ rest) := by
  rw [parseField_of_parseTL sub f (parseTL_tlv _ _ _ _ _ (by omega) htg hc), pfElem, if_pos hex,
    if_neg (by simp [hc0]), if_neg (by simp [htag, hne])]

/-! ## what a successful decoding says about the input -/

theorem pfGo_some (f : Field) {c r b' : Bytes} {t : TL} {x : FV σ}
    (hp : parseTL c = some (t, r)) (h : pfGo sub f none t r = some (x, b')) :
    ∃ body, c = innerOf f body ++ b' ∧ body.length < 2 ^ 31 ∧ parseContents sub f.ty body = some x := by
  -- every guard of `pfGo` passed
  simp only [pfGo, Option.ite_none_left_eq_some, Option.map_eq_some_iff, Prod.mk.injEq, ne_eq, not_or,
    Decidable.not_not, Nat.not_lt] at h
  obtain ⟨⟨c1, c2, c3⟩, hl, y, hpc, rfl, rfl⟩ := h
  have := tlv_of_parseTL c r t hp hl
  rw [c1, c2, c3] at this
  exact ⟨_, this, by have := (parseTL_canonical' c r t hp).2.2.2; rw [List.length_take]; omega, hpc⟩

/-- a member that is not optional is read from an element -/
theorem parseField_some_parseTL (f : Field) (b : Bytes) (p : FV σ × Bytes)
    (hopt : f.optional = false) (h : parseField sub f b = some p) :
    ∃ t r, parseTL b = some (t, r) ∧ pfElem sub f b t r = some p := by
  cases hp : parseTL b with
  | none =>
    cases b with
    | nil => simp [parseField_nil, pfDflt, hopt] at h
    | cons x xs => simp [parseField, hp] at h
  | some q => exact ⟨q.1, q.2, rfl, parseField_of_parseTL sub f hp ▸ h⟩

theorem parseField_plain_some (f : Field) (b b' : Bytes) (x : FV σ)
    (hex : f.explicit = false) (hopt : f.optional = false) (h : parseField sub f b = some (x, b')) :
    ∃ body, b = innerOf f body ++ b' ∧ body.length < 2 ^ 31 ∧ parseContents sub f.ty body = some x := by
  obtain ⟨t, r, hp, he⟩ := parseField_some_parseTL sub f b _ hopt h
  simp only [pfElem, pfDflt, hex, hopt, Bool.false_eq_true, ↓reduceIte] at he
  exact pfGo_some sub f hp he

theorem parseField_explicit_some (f : Field) (tg : Nat) (b b' : Bytes) (x : FV σ)
    (hex : f.explicit = true) (hopt : f.optional = false) (htag : f.tag = some tg) (hty : f.ty ≠ .flag)
    (h : parseField sub f b = some (x, b')) :
    ∃ l1 body, b = encTL 2 true tg l1 ++ (innerOf f body ++ b') ∧ 0 < l1 ∧ parseContents sub f.ty body = some x := by
  obtain ⟨t, r, hp, he⟩ := parseField_some_parseTL sub f b _ hopt h
  simp only [pfElem, pfDflt, hex, hopt, Bool.false_eq_true, ↓reduceIte] at he
  split at he
  · exact absurd he (by simp)
  split at he
  · rename_i hc
    split at he
    · rename_i hlen
      cases hp' : parseTL r with
      | none => simp [hp'] at he
      | some q =>
        obtain ⟨body, hr, -, hpc⟩ := pfGo_some sub f hp' (by simpa [hp'] using he)
        have hb := (parseTL_canonical' b r t hp).1
        rw [hc.1, hc.2.2.resolve_left (by omega), Option.some.inj (hc.2.1.trans htag), hr] at hb
        exact ⟨t.len, body, hb, hlen, hpc⟩
    · simp at he
  · exact absurd he (by simp)

/-! ## member-wise round trip of `marshalFields` / `parseFields` -/

theorem marshalField_eq (f : Field) (v : FV σ) :
    marshalField sub f v =
      if f.optional && isZeroFV sub f.ty v then some []
      else match bodyOf sub f v with
        | none => none
        | some body =>
          match f.tag with
          | some tg => if f.explicit then some (tlv 2 true tg (innerOf f body)) else none
          | none => some (innerOf f body) := rfl

/-! ### SEQUENCE OF / SET OF INTEGER contents -/

theorem parseInts_cons (n : Nat) (i : Int) (restb : Bytes) (hi : Spec.Asn1.Int64 i) :
    parseInts (n + 1) (encIntTLV i ++ restb) = (parseInts n restb).map (i :: ·) := by
  have h := parseTL_tlv 0 2 false (encInt i) restb (by omega) (by omega) (by have := encInt_length i; omega)
  obtain ⟨x, xs, hx⟩ := exists_cons_of_parseTL h
  rw [show encIntTLV i = tlv 0 false 2 (encInt i) from rfl, hx]
  rw [hx] at h
  simp [parseInts, h, parseInt64_encInt' i hi, Nat.not_lt.mpr (Nat.le_add_right _ _)]

theorem parseInts_encode (l : List Int) (h : ∀ i ∈ l, Spec.Asn1.Int64 i) :
    parseInts (l.map encIntTLV).flatten.length (l.map encIntTLV).flatten = some l := by
  induction l with
  | nil => rfl
  | cons i l ih =>
    have hpos := (tlv_length_le 0 2 false (encInt i) (by omega)).1
    rw [List.map_cons, List.flatten_cons,
      parseInts_fuel_gen _ ((encIntTLV i ++ (l.map encIntTLV).flatten).length - 1 + 1) _ (Nat.le_refl _) (by omega),
      parseInts_cons _ _ _ (h i (by simp)),
      parseInts_fuel_gen _ (l.map encIntTLV).flatten.length _
        (by rw [List.length_append]; change _ ≤ (tlv 0 false 2 (encInt i)).length + _ - 1; omega) (Nat.le_refl _),
      ih (fun j hj => h j (by simp [hj]))]
    rfl

/-! ### member-wise round trip -/

/-- the member is written, and its contents octets read back as the value (when they are short enough to be framed) -/
def PresentOK (f : Field) (x : FV σ) : Prop :=
  ∃ body, bodyOf sub f x = some body ∧ (body.length < 2 ^ 31 → parseContents sub f.ty body = some x)

/-- an optional member: a zero value is the decoder's default; any other value is written and read back -/
def OptOK (f : Field) (x : FV σ) : Prop :=
  (isZeroFV sub f.ty x = true → zeroOf sub f.ty = some x) ∧ (isZeroFV sub f.ty x = false → PresentOK sub f x)

def OptFieldOK (f : Field) : Prop := f.explicit = true ∧ f.optional = true ∧ ∃ tg, f.tag = some tg ∧ tg < 2 ^ 31

def PlainFieldOK (f : Field) : Prop := f.explicit = false ∧ f.optional = false ∧ f.tag = none

instance : DecidablePred PlainFieldOK := fun f => by unfold PlainFieldOK; infer_instance

def AllOK (P : Field → FV σ → Prop) : List Field → List (FV σ) → Prop
  | [], [] => True
  | f :: fs, x :: xs => P f x ∧ AllOK P fs xs
  | _, _ => False

/-- the bytes under the cursor are nothing, or an element of context class with a tag other than `tg` -/
def StartsOther (tg : Nat) (b : Bytes) : Prop :=
  b = [] ∨ ∃ tg' c r, b = tlv 2 true tg' c ++ r ∧ tg' ≠ tg ∧ tg' < 2 ^ 31 ∧ c.length < 2 ^ 31 ∧ c ≠ []

theorem parseField_startsOther (f : Field) (tg : Nat) (b : Bytes)
    (hex : f.explicit = true) (hopt : f.optional = true) (htag : f.tag = some tg) (h : StartsOther tg b) :
    parseField sub f b = (zeroOf sub f.ty).map (·, b) := by
  rcases h with rfl | ⟨tg', c, r, rfl, hne, htg, hc, hc0⟩
  · rw [parseField_nil, pfDflt, if_pos hopt]
  · rw [parseField_skip sub f tg tg' c r hex htag hne htg hc hc0, pfDflt, if_pos hopt]

theorem marshalFields_cons (f : Field) (fs : List Field) (x : FV σ) (xs : List (FV σ))
    (a b : Bytes) (ha : marshalField sub f x = some a) (hb : marshalFields sub fs xs = some b) :
    marshalFields sub (f :: fs) (x :: xs) = some (a ++ b) := by
  simp only [marshalFields, ha, hb]

theorem parseFields_cons (f : Field) (fs : List Field) (x : FV σ) (xs : List (FV σ))
    (b b' : Bytes) (ha : parseField sub f b = some (x, b')) (hb : parseFields sub fs b' = some xs) :
    parseFields sub (f :: fs) b = some (x :: xs) := by
  simp only [parseFields, ha, hb, Option.map_some]

theorem plain_roundtrip (fs : List Field) (xs : List (FV σ))
    (hf : ∀ f ∈ fs, PlainFieldOK f) (hx : AllOK (PresentOK sub) fs xs) :
    ∃ body, marshalFields sub fs xs = some body ∧
      (body.length < 2 ^ 31 → ∀ rest, parseFields sub fs (body ++ rest) = some xs) := by
  induction fs generalizing xs with
  | nil =>
    cases xs with
    | nil => exact ⟨[], rfl, fun _ _ => rfl⟩
    | cons x xs => exact hx.elim
  | cons f fs ih =>
    cases xs with
    | nil => exact hx.elim
    | cons x xs =>
      obtain ⟨⟨bd, hbd, hpc⟩, hxs⟩ := hx
      obtain ⟨hex, hopt, htag⟩ := hf f (by simp)
      obtain ⟨body', hm', hp'⟩ := ih xs (fun g hg => hf g (by simp [hg])) hxs
      have hmf : marshalField sub f x = some (innerOf f bd) := by
        rw [marshalField_eq, hopt, hbd, htag]; rfl
      refine ⟨_, marshalFields_cons sub f fs x xs _ _ hmf hm', fun hlen rest => ?_⟩
      have := innerOf_length f bd
      rw [List.length_append] at hlen
      rw [List.append_assoc]
      exact parseFields_cons sub f fs x xs _ _
        (parseField_plain sub f bd _ x hex (by omega) (hpc (by omega))) (hp' (by omega) rest)

theorem opt_roundtrip (fs : List Field) (xs : List (FV σ))
    (hf : ∀ f ∈ fs, OptFieldOK f) (hd : fs.Pairwise (fun a b => a.tag ≠ b.tag)) (hx : AllOK (OptOK sub) fs xs) :
    ∃ body, marshalFields sub fs xs = some body ∧
      (body.length < 2 ^ 31 →
        (∀ tg, (∀ f ∈ fs, f.tag ≠ some tg) → StartsOther tg body) ∧ parseFields sub fs body = some xs) := by
  induction fs generalizing xs with
  | nil =>
    cases xs with
    | nil => exact ⟨[], rfl, fun _ => ⟨fun _ _ => Or.inl rfl, rfl⟩⟩
    | cons x xs => exact hx.elim
  | cons f fs ih =>
    cases xs with
    | nil => exact hx.elim
    | cons x xs =>
      obtain ⟨⟨hz, hnz⟩, hxs⟩ := hx
      obtain ⟨hex, hopt, tg, htag, htg⟩ := hf f (by simp)
      obtain ⟨hd1, hd2⟩ := List.pairwise_cons.mp hd
      obtain ⟨body', hm', hp'⟩ := ih xs (fun g hg => hf g (by simp [hg])) hd2 hxs
      cases hzero : isZeroFV sub f.ty x with
      | true =>
        -- absent: nothing is written; the decoder sees the next member's element (another tag) and keeps the default
        have hmf : marshalField sub f x = some [] := by
          rw [marshalField_eq, hopt, hzero]; rfl
        refine ⟨_, marshalFields_cons sub f fs x xs _ _ hmf hm', fun hlen => ?_⟩
        rw [List.nil_append] at hlen ⊢
        obtain ⟨hso, hpf⟩ := hp' hlen
        refine ⟨fun tg0 h0 => hso tg0 (fun g hg => h0 g (by simp [hg])), parseFields_cons sub f fs x xs _ _ ?_ hpf⟩
        rw [parseField_startsOther sub f tg body' hex hopt htag
          (hso tg (fun g hg => by rw [← htag]; exact fun e => hd1 g hg e.symm)), hz hzero]
        rfl
      | false =>
        obtain ⟨bd, hbd, hpc⟩ := hnz hzero
        have hmf : marshalField sub f x = some (tlv 2 true tg (innerOf f bd)) := by
          rw [marshalField_eq, hopt, hzero, hbd, htag, hex]; rfl
        refine ⟨_, marshalFields_cons sub f fs x xs _ _ hmf hm', fun hlen => ?_⟩
        have h1 := innerOf_length f bd
        have h2 := tlv_length_le 2 tg true (innerOf f bd) htg
        rw [List.length_append] at hlen
        obtain ⟨hso, hpf⟩ := hp' (by omega)
        exact ⟨fun tg0 h0 => Or.inr ⟨tg, _, body', rfl, fun e => h0 f (by simp) (by rw [htag, e]), htg, by omega,
            innerOf_ne_nil f bd⟩,
          parseFields_cons sub f fs x xs _ _
            (parseField_explicit sub f tg bd body' x hex htag htg (by omega) (hpc (by omega))) hpf⟩

/-! ## contents round trips per member type -/

theorem presentOK_int (f : Field) (i : Int) (hty : f.ty = .int)
    (hi : Spec.Asn1.Int64 i) : PresentOK sub f (.prim (.int i)) :=
  ⟨encInt i, by simp [bodyOf, hty], fun _ => by simp [hty, parseContents, parseInt64_encInt' i hi]⟩

theorem presentOK_enum (f : Field) (i : Int) (hty : f.ty = .enum)
    (hi : Spec.Asn1.Int32 i) : PresentOK sub f (.prim (.int i)) := by
  refine ⟨encInt i, by simp [bodyOf, hty], fun _ => ?_⟩
  have h64 : Spec.Asn1.Int64 i := by unfold Spec.Asn1.Int32 at hi; unfold Spec.Asn1.Int64; omega
  simp [hty, parseContents, parseInt32, parseInt64_encInt' i h64, hi.1, hi.2]

theorem presentOK_flag (f : Field) (hty : f.ty = .flag) :
    PresentOK sub f (.prim (.bool true)) :=
  ⟨[], by simp [bodyOf, hty], fun _ => by simp [hty, parseContents]⟩

theorem presentOK_bool (f : Field) (b : Bool) (hty : f.ty = .bool) :
    PresentOK sub f (.prim (.bool b)) :=
  ⟨[if b then 0xff else 0], by simp [bodyOf, hty], fun _ => by cases b <;> simp [hty, parseContents, parseBool]⟩

theorem presentOK_bytes (f : Field) (b : Bytes) (hty : f.ty = .bytes) :
    PresentOK sub f (.prim (.bytes (some b))) :=
  ⟨b, by simp [bodyOf, hty], fun _ => by simp [hty, parseContents]⟩

theorem presentOK_ints (f : Field) (l : List Int) (hty : f.ty = .intList)
    (hi : ∀ i ∈ l, Spec.Asn1.Int64 i) (hs : f.set = true → sortEnc (l.map encIntTLV) = l.map encIntTLV) :
    PresentOK sub f (.prim (.ints (some l))) := by
  refine ⟨(l.map encIntTLV).flatten, ?_, fun _ => ?_⟩
  · simp only [bodyOf, hty, if_true, Option.getD_some]
    cases hset : f.set with
    | true => rw [hs hset]; rfl
    | false => rfl
  · simp only [hty, parseContents, parseInts_encode l hi, Option.map_some]

theorem presentOK_struct (f : Field) (n : String) (o : SubOps σ) (s : σ) (body : Bytes)
    (hty : f.ty = .struct n) (hsub : sub n = some o) (hb : o.body s = some body)
    (hp : body.length < 2 ^ 31 → o.parse body = some s) : PresentOK sub f (.sub s) := by
  refine ⟨body, by simp [bodyOf, hty, hsub, hb], fun hl => ?_⟩
  simp [hty, parseContents, hsub, hp hl]

/-! ## SEQUENCE framing, a stalled cursor -/

theorem unmarshalStruct_of_parseTL (fs : List Field) {b r : Bytes} {t : TL}
    (h : parseTL b = some (t, r)) :
    unmarshalStruct sub fs b =
      if t.cls ≠ 0 ∨ t.tag ≠ 16 ∨ t.compound ≠ true then none
      else if t.len > r.length then none
      else (parseFields sub fs (r.take t.len)).map (·, r.drop t.len) := by
  obtain ⟨x, xs, rfl⟩ := exists_cons_of_parseTL h
  simp only [unmarshalStruct, h]

/-- a framed SEQUENCE whose contents decode to `v` -/
theorem unmarshalStruct_tlv (fs : List Field) (body rest : Bytes) (v : List (FV σ))
    (hl : body.length < 2 ^ 31) (hp : parseFields sub fs body = some v) :
    unmarshalStruct sub fs (tlv 0 true 16 body ++ rest) = some (v, rest) := by
  rw [unmarshalStruct_of_parseTL sub fs (parseTL_tlv _ _ _ _ _ (by omega) (by omega) hl), if_neg (by simp),
    if_neg (by simp)]
  simp [hp]

/-- … and what such a decoding says about the input -/
theorem unmarshalStruct_some (fs : List Field) (b rest : Bytes) (v : List (FV σ))
    (h : unmarshalStruct sub fs b = some (v, rest)) :
    ∃ body, b = tlv 0 true 16 body ++ rest ∧ parseFields sub fs body = some v := by
  cases hp : parseTL b with
  | none =>
    cases b with
    | nil => exact absurd h (by simp [unmarshalStruct])
    | cons x xs => exact absurd h (by simp [unmarshalStruct, hp])
  | some q =>
    obtain ⟨t, r⟩ := q
    simp only [unmarshalStruct_of_parseTL sub fs hp, Option.ite_none_left_eq_some, Option.map_eq_some_iff,
      Prod.mk.injEq, ne_eq, not_or, Decidable.not_not, Nat.not_lt] at h
    obtain ⟨⟨c1, c2, c3⟩, hl, w, hpf, rfl, rfl⟩ := h
    have := tlv_of_parseTL b r t hp hl
    rw [c1, c2, c3] at this
    exact ⟨_, this, hpf⟩

/-- the framing of `marshalStruct` / `unmarshalStruct` around a round trip of the members -/
theorem struct_roundtrip (fs : List Field) (v : List (FV σ)) (body : Bytes)
    (hm : marshalFields sub fs v = some body) (hp : body.length < 2 ^ 31 → parseFields sub fs body = some v) :
    ∃ b, marshalStruct sub fs v = some b ∧
      (b.length < 2 ^ 31 → ∀ rest, unmarshalStruct sub fs (b ++ rest) = some (v, rest)) := by
  refine ⟨tlv 0 true 16 body, by rw [marshalStruct, hm]; rfl, fun hl rest => ?_⟩
  have := (tlv_length_le 0 16 true body (by omega)).1
  exact unmarshalStruct_tlv sub fs body rest v (by omega) (hp (by omega))

theorem parseFields_stall (fs : List Field) (b : Bytes) (z : Field → FV σ)
    (h : ∀ f ∈ fs, parseField sub f b = some (z f, b)) : parseFields sub fs b = some (fs.map z) := by
  induction fs with
  | nil => rfl
  | cons f fs ih => exact parseFields_cons sub f fs _ _ b b (h f (by simp)) (ih (fun g hg => h g (by simp [hg])))

/-! ## `asn1.Unmarshal(b, &[]byte)` -/

/-- the member `asn1.Unmarshal(b, &[]byte)` decodes as -/
def octetField : Field := ⟨"", .bytes, none, false, false, false⟩

theorem unmarshalOctetString_iff (b v rest : Bytes) :
    unmarshalOctetString b = some (v, rest) ↔ b = tlv 0 false 4 v ++ rest ∧ v.length < 2 ^ 31 := by
  constructor
  · intro h
    unfold unmarshalOctetString at h
    split at h
    · rename_i v' rest' hpf
      obtain ⟨rfl, rfl⟩ := Prod.mk.inj (Option.some.inj h)
      obtain ⟨body, hb, hl, hpc⟩ := parseField_plain_some _ octetField _ _ _ rfl rfl hpf
      obtain rfl : body = v' := by simpa [parseContents, octetField] using hpc
      exact ⟨hb, hl⟩
    · exact absurd h (by simp)
  · rintro ⟨rfl, hl⟩
    have := parseField_plain (σ := Empty) (fun _ => none) octetField v rest (.prim (.bytes (some v))) rfl hl rfl
    unfold unmarshalOctetString
    rw [show tlv 0 false 4 v = innerOf octetField v from rfl,
      show (⟨"", .bytes, none, false, false, false⟩ : Field) = octetField from rfl, this]

end WebAuthn.Proofs.Asn1Lemmas
