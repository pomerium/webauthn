import WebAuthnModel.Spec.Attestation
import WebAuthnModel.Proofs.Run
/-
  `X509Sig.checkSignature` (the program) against `X509Sig.Checked` (the statement about the environment), the same for the
  verifiers' `certCheckSig`, and uniqueness of the message under `Spec.Att.SigBinds`.
-/
namespace WebAuthn.X509SigLemmas
open WebAuthn WebAuthn.Att

theorem run_checkSignature (env : Prog.Env) (der : Bytes) (key : KeyMat) (algo : Nat) (msg sig : Bytes) :
    Prog.run env (X509Sig.checkSignature der key algo msg sig) = true ↔ X509Sig.Checked env der key algo msg sig := by
  unfold X509Sig.checkSignature X509Sig.Checked
  cases X509Sig.checkPlan algo key sig with
  | reject => simp
  | primitive s h sg => exact run_askBool env _
  | «opaque» => exact run_askBool env _

theorem run_certCheckSig (env : Prog.Env) (der : Bytes) (c : CertView) (alg : Int) (msg sig : Bytes) :
    Prog.run env (certCheckSig der c alg msg sig) = true ↔ X509Sig.Checked env der c.key (Cose.algX509 alg) msg sig :=
  run_checkSignature env der c.key (Cose.algX509 alg) msg sig

/-- under `SigBinds`, a certificate signature check accepts at most one message for a given signature -/
theorem checked_binds {env : Prog.Env} (hb : Spec.Att.SigBinds env) {der : Bytes} {key : KeyMat} {algo : Nat} {m m' sg : Bytes}
    (h : X509Sig.Checked env der key algo m sg) (h' : X509Sig.Checked env der key algo m' sg) : m = m' := by
  unfold X509Sig.Checked at h h'
  cases hp : X509Sig.checkPlan algo key sg with
  | reject => rw [hp] at h; exact h.elim
  | primitive s hh sg' =>
    rw [hp] at h h'
    exact hb.2 _ _ _ _ _ _ h h'
  | «opaque» =>
    rw [hp] at h h'
    exact hb.1 _ _ _ _ _ h h'

end WebAuthn.X509SigLemmas
