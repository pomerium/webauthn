import WebAuthnModel.Basic.Bytes
/-
  General lemmas about `Bytes.beNat` / `Bytes.ofNatBE` (fixed-width big-endian) and about
  `List.take` / `List.drop` on byte strings, used by the codec theorems.
-/
namespace WebAuthn.Bytes
open WebAuthn

/-! ## take / drop -/

/-- a list that is long enough splits into its first `k` elements and the rest -/
theorem take_drop_split {α : Type} (k : Nat) (l : List α) (h : k ≤ l.length) :
    l = l.take k ++ l.drop k ∧ (l.take k).length = k :=
  ⟨(List.take_append_drop k l).symm, by rw [List.length_take]; omega⟩

theorem take_append_of_length {α : Type} (p q : List α) (k : Nat) (h : p.length = k) :
    (p ++ q).take k = p := by
  subst h; exact List.take_left

theorem drop_append_of_length {α : Type} (p q : List α) (k : Nat) (h : p.length = k) :
    (p ++ q).drop k = q := by
  subst h; exact List.drop_left

/-- cutting at or after the end of the first part keeps the first part -/
theorem take_append_ge {α : Type} (p q : List α) (n : Nat) (h : p.length ≤ n) :
    (p ++ q).take n = p ++ q.take (n - p.length) := by
  rw [List.take_append, List.take_of_length_le h]

/-- cutting inside the first part forgets the second part -/
theorem take_append_lt {α : Type} (p q : List α) (n : Nat) (h : n ≤ p.length) :
    (p ++ q).take n = p.take n := by
  rw [List.take_append, Nat.sub_eq_zero_of_le h, List.take_zero, List.append_nil]

theorem take_take_of_le {α : Type} (l : List α) (k n : Nat) (h : k ≤ n) :
    (l.take n).take k = l.take k := by
  rw [List.take_take, Nat.min_eq_left h]

/-! ## big-endian -/

theorem foldl_init (l : Bytes) (a : Nat) :
    l.foldl (fun acc x => acc * 256 + x.toNat) a =
      a * 256 ^ l.length + l.foldl (fun acc x => acc * 256 + x.toNat) 0 := by
  induction l generalizing a with
  | nil => simp
  | cons x xs ih =>
    simp only [List.foldl_cons, List.length_cons]
    rw [ih (a * 256 + x.toNat), ih (0 * 256 + x.toNat), Nat.pow_succ, Nat.add_mul, Nat.add_mul,
      Nat.zero_mul, Nat.zero_add, Nat.mul_assoc, Nat.mul_comm 256 (256 ^ xs.length),
      Nat.add_assoc]

@[simp] theorem beNat_nil : beNat [] = 0 := rfl

theorem beNat_cons (x : UInt8) (l : Bytes) : beNat (x :: l) = x.toNat * 256 ^ l.length + beNat l := by
  simp only [beNat, List.foldl_cons]
  rw [foldl_init]
  simp

theorem beNat_lt (l : Bytes) : beNat l < 256 ^ l.length := by
  induction l with
  | nil => simp
  | cons x xs ih =>
    rw [beNat_cons, List.length_cons, Nat.pow_succ]
    have hx : x.toNat < 256 := x.toNat_lt
    have h1 : x.toNat * 256 ^ xs.length + 256 ^ xs.length ≤ 256 ^ xs.length * 256 := by
      rw [Nat.mul_comm (256 ^ xs.length) 256, ← Nat.succ_mul]
      exact Nat.mul_le_mul_right _ hx
    omega

/-- the leading byte is the quotient by 256^(length of the rest) -/
theorem beNat_cons_lt_iff (a : UInt8) (t : Bytes) (k : Nat) :
    beNat (a :: t) < k * 256 ^ t.length ↔ a.toNat < k := by
  have h := beNat_lt t
  rw [beNat_cons]
  constructor
  · intro hlt
    apply Decidable.byContradiction
    intro hge
    have := Nat.mul_le_mul_right (256 ^ t.length) (Nat.le_of_not_lt hge)
    omega
  · intro hlt
    have := Nat.mul_le_mul_right (256 ^ t.length) (Nat.succ_le_of_lt hlt)
    rw [Nat.succ_mul] at this
    omega

@[simp] theorem length_ofNatBE (w n : Nat) : (ofNatBE w n).length = w := by
  induction w with
  | zero => rfl
  | succ w ih => simp [ofNatBE, ih]

theorem beNat_ofNatBE_mod (w n : Nat) : beNat (ofNatBE w n) = n % 256 ^ w := by
  induction w with
  | zero => simp [ofNatBE, Nat.mod_one]
  | succ w ih =>
    rw [ofNatBE, beNat_cons, ih, length_ofNatBE, Nat.mod_pow_succ]
    have h : (UInt8.ofNat (n / 256 ^ w % 256)).toNat = n / 256 ^ w % 256 := by
      rw [UInt8.toNat_ofNat']
      exact Nat.mod_eq_of_lt (Nat.mod_lt _ (by decide))
    rw [h, Nat.mul_comm, Nat.add_comm]

theorem beNat_ofNatBE (w n : Nat) (h : n < 256 ^ w) : beNat (ofNatBE w n) = n := by
  rw [beNat_ofNatBE_mod, Nat.mod_eq_of_lt h]

/-- `ofNatBE w` only looks at the value mod `256 ^ w` -/
theorem ofNatBE_add_mul (w k m : Nat) : ofNatBE w (k * 256 ^ w + m) = ofNatBE w m := by
  induction w generalizing k with
  | zero => rfl
  | succ w ih =>
    have e : k * 256 ^ (w + 1) + m = (k * 256) * 256 ^ w + m := by
      rw [Nat.pow_succ, Nat.mul_assoc, Nat.mul_comm 256 (256 ^ w)]
    rw [ofNatBE, ofNatBE, e, ih (k * 256)]
    have hpos : 0 < 256 ^ w := Nat.pow_pos (by decide)
    have e2 : (k * 256 * 256 ^ w + m) / 256 ^ w % 256 = m / 256 ^ w % 256 := by
      rw [Nat.add_comm, Nat.add_mul_div_right _ _ hpos, Nat.add_mul_mod_self_right]
    rw [e2]

theorem ofNatBE_beNat (w : Nat) (l : Bytes) (h : l.length = w) : ofNatBE w (beNat l) = l := by
  induction l generalizing w with
  | nil => subst h; rfl
  | cons x xs ih =>
    subst h
    rw [List.length_cons, beNat_cons, ofNatBE, ofNatBE_add_mul, ih _ rfl]
    have hpos : 0 < 256 ^ xs.length := Nat.pow_pos (by decide)
    have hlt := beNat_lt xs
    have e : (x.toNat * 256 ^ xs.length + beNat xs) / 256 ^ xs.length % 256 = x.toNat := by
      rw [Nat.add_comm, Nat.add_mul_div_right _ _ hpos, Nat.div_eq_of_lt hlt, Nat.zero_add]
      exact Nat.mod_eq_of_lt x.toNat_lt
    rw [e]
    simp

end WebAuthn.Bytes
