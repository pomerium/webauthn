import WebAuthnModel.Model.Json
/-
  Lemmas about the Lean model of `encoding/json` (`Model/Json.lean`) for `Theorems/C01Json.lean`: the scanner, the unquoter
  and the value / member parsers on the documents clients write (plain printable-ASCII strings, no insignificant whitespace),
  and the member loop of `CollectedClientData` on the members `type`, `challenge`, `origin`, `crossOrigin` in any order.
  Core Lean only.
-/
namespace WebAuthn.Json.Lemmas
open WebAuthn WebAuthn.Json

/-- printable ASCII without `"` and `\` (the same predicate as `Theorems.C01Json.plainChar`) -/

def plainByte (b : UInt8) : Bool := 0x20 ≤ b.toNat && b.toNat < 0x7f && b ≠ c '"' && b ≠ c '\\'
def PlainBytes (s : Bytes) : Prop := s.all plainByte = true
instance (s : Bytes) : Decidable (PlainBytes s) := by unfold PlainBytes; infer_instance

theorem plainByte_spec {b : UInt8} (h : plainByte b = true) :
    32 ≤ b.toNat ∧ b.toNat < 127 ∧ b ≠ c '"' ∧ b ≠ c '\\' := by
  simpa [plainByte, and_assoc] using h

theorem PlainBytes.head {b : UInt8} {s : Bytes} (h : PlainBytes (b :: s)) : plainByte b = true := by
  unfold PlainBytes at h; simp at h; exact h.1
theorem PlainBytes.tail {b : UInt8} {s : Bytes} (h : PlainBytes (b :: s)) : PlainBytes s := by
  unfold PlainBytes at h ⊢; simp at h; simpa using h.2

theorem scanString_plain (s rest : Bytes) (h : PlainBytes s) : scanString (s ++ c '"' :: rest) = some (s, rest) := by
  induction s with
  | nil => rw [List.nil_append, scanString.eq_def]; simp
  | cons b s ih =>
    obtain ⟨h1, h2, h3, h4⟩ := plainByte_spec h.head
    have h5 : ¬ b.toNat < 32 := by omega
    rw [List.cons_append, scanString.eq_def]
    simp only [if_neg h3, if_neg h4, if_neg h5, ih h.tail, Option.map_some]

theorem unquote_plain (s : Bytes) (h : PlainBytes s) : ∀ fuel, s.length ≤ fuel → unquote fuel s = s := by
  induction s with
  | nil => intro fuel _; cases fuel <;> rfl
  | cons b s ih =>
    intro fuel hf
    obtain ⟨h1, h2, h3, h4⟩ := plainByte_spec h.head
    cases fuel with
    | zero => simp at hf
    | succ f =>
      have h5 : b.toNat < 0x80 := by omega
      rw [unquote.eq_def]
      simp only [if_neg h4, if_pos h5, ih h.tail f (by simpa using hf)]

theorem unq_plain (s : Bytes) (h : PlainBytes s) : unq s = s := unquote_plain s h _ (Nat.le_succ _)


/-- printable bytes other than the space are not JSON whitespace; in particular the punctuation the renderer writes -/
theorem skipSpace_cons (b : UInt8) (rest : Bytes) (h : 32 < b.toNat) : skipSpace (b :: rest) = b :: rest := by
  have : isSpace b = false := by
    simp only [isSpace, Bool.or_eq_false_iff, decide_eq_false_iff_not]
    refine ⟨⟨⟨?_, ?_⟩, ?_⟩, ?_⟩ <;> (rintro rfl; exact absurd h (by decide))
  rw [skipSpace, if_neg (by simp [this])]

/-- `vb` is a JSON text that the value parser reads as `v`, whatever follows and at any depth -/
def ValOK (vb : Bytes) (v : JVal) : Prop :=
  ∀ fuel depth rest, parseValue (fuel + 1) depth (vb ++ rest) = some (v, rest)

theorem valOK_quote (s : Bytes) (h : PlainBytes s) : ValOK (c '"' :: s ++ [c '"']) (.str s) := by
  intro fuel depth rest
  have : (c '"' :: s ++ [c '"']) ++ rest = c '"' :: (s ++ c '"' :: rest) := by simp
  rw [this, parseValue.eq_def]
  simp only [skipSpace_cons (c '"') _ (by decide), scanString_plain s rest h]
  simp [show c '"' ≠ c '{' by decide, show c '"' ≠ c '[' by decide]

theorem valOK_false : ValOK [c 'f', c 'a', c 'l', c 's', c 'e'] (.bool false) := by
  intro fuel depth rest
  rw [parseValue.eq_def]
  simp [skipSpace_cons (c 'f') _ (by decide),
    show c 'f' ≠ c '{' by decide, show c 'f' ≠ c '[' by decide, show c 'f' ≠ c '"' by decide, show c 'f' ≠ c 't' by decide]

theorem valOK_true : ValOK [c 't', c 'r', c 'u', c 'e'] (.bool true) := by
  intro fuel depth rest
  rw [parseValue.eq_def]
  simp [skipSpace_cons (c 't') _ (by decide),
    show c 't' ≠ c '{' by decide, show c 't' ≠ c '[' by decide, show c 't' ≠ c '"' by decide]


/-- an object member as the renderer writes it: plain key, value text, and the value the parser reads from that text -/
structure Mem where
  k : Bytes
  vb : Bytes
  v : JVal

def Mem.render (m : Mem) : Bytes := (c '"' :: m.k ++ [c '"']) ++ [c ':'] ++ m.vb
def Mem.kv (m : Mem) : Bytes × JVal := (m.k, m.v)
structure Mem.WF (m : Mem) : Prop where
  key : PlainBytes m.k
  val : ValOK m.vb m.v

/-- one member followed by anything: the member parser reads key and value and looks at the next non-space byte -/
theorem parseMembers_one (m : Mem) (h : m.WF) (fuel depth : Nat) (tl : Bytes) :
    parseMembers (fuel + 2) depth (m.render ++ tl) =
      match skipSpace tl with
      | b3 :: rest4 =>
        if b3 = c '}' then some ([m.kv], rest4)
        else if b3 = c ',' then (parseMembers (fuel + 1) depth rest4).map (fun p => (m.kv :: p.1, p.2))
        else none
      | [] => none := by
  have : m.render ++ tl = c '"' :: (m.k ++ c '"' :: (c ':' :: (m.vb ++ tl))) := by simp [Mem.render]
  rw [this, parseMembers.eq_def]
  simp only [skipSpace_cons (c '"') _ (by decide), scanString_plain _ _ h.key,
    skipSpace_cons (c ':') _ (by decide), h.val fuel depth tl]
  simp only [Mem.kv, ne_eq, not_true_eq_false, if_false]
  generalize skipSpace tl = x
  cases x <;> rfl

/-- the members of an object after the opening brace: members separated by commas, then `}` and the rest -/
def renderMembers : List Mem → Bytes → Bytes
  | [], rest => rest
  | [m], rest => m.render ++ c '}' :: rest
  | m :: ms, rest => m.render ++ c ',' :: renderMembers ms rest

theorem parseMembers_render (l : List Mem) (hne : l ≠ []) (hwf : ∀ m ∈ l, m.WF) (depth : Nat) (rest : Bytes) :
    ∀ fuel, l.length + 1 ≤ fuel → parseMembers fuel depth (renderMembers l rest) = some (l.map Mem.kv, rest) := by
  induction l with
  | nil => exact absurd rfl hne
  | cons m l ih =>
    intro fuel hf
    obtain ⟨f, rfl⟩ : ∃ f, fuel = f + 2 := ⟨fuel - 2, by simp at hf; omega⟩
    cases l with
    | nil =>
      rw [renderMembers, parseMembers_one m (hwf m (by simp)), skipSpace_cons (c '}') _ (by decide)]
      simp
    | cons m' l' =>
      rw [renderMembers, parseMembers_one m (hwf m (by simp)), skipSpace_cons (c ',') _ (by decide)]
      · simp only [show c ',' ≠ c '}' by decide, if_false, if_true]
        rw [ih (by simp) (fun x hx => hwf x (List.mem_cons_of_mem _ hx)) (f + 1) (by simp at hf ⊢; omega)]
        simp
      · simp

theorem renderMembers_head (l : List Mem) (hne : l ≠ []) (rest : Bytes) :
    ∃ tl, renderMembers l rest = c '"' :: tl := by
  match l, hne with
  | [m], _ => exact ⟨_, by simp [renderMembers, Mem.render]; rfl⟩
  | m :: m' :: l', _ => exact ⟨_, by simp [renderMembers, Mem.render]; rfl⟩


/-- a permutation of an image list is the image of a permutation -/
theorem perm_map_exists {α β : Type} (f : α → β) (ms : List β) (L : List α) (h : ms.Perm (L.map f)) :
    ∃ l : List α, l.Perm L ∧ ms = l.map f := by
  generalize hys : L.map f = ys at h
  induction h generalizing L with
  | nil => exact ⟨[], by cases L <;> simp_all, rfl⟩
  | cons x _ ih =>
    cases L with
    | nil => simp at hys
    | cons a L' =>
      simp only [List.map_cons, List.cons.injEq] at hys
      obtain ⟨l, hl, rfl⟩ := ih L' hys.2
      exact ⟨a :: l, hl.cons a, by simp [hys.1]⟩
  | swap x y l =>
    match L, hys with
    | a :: b :: L', hys =>
      simp only [List.map_cons, List.cons.injEq] at hys
      obtain ⟨rfl, rfl, rfl⟩ := hys
      exact ⟨b :: a :: L', List.Perm.swap _ _ _, rfl⟩
  | trans _ _ ih1 ih2 =>
    obtain ⟨l2, hl2, rfl⟩ := ih2 L hys
    obtain ⟨l1, hl1, rfl⟩ := ih1 l2 rfl
    exact ⟨l1, hl1.trans hl2, rfl⟩


theorem renderMembers_length (l : List Mem) (rest : Bytes) : l.length ≤ (renderMembers l rest).length := by
  induction l with
  | nil => simp
  | cons m l ih =>
    cases l with
    | nil => simp only [renderMembers, List.length_append, List.length_cons, List.length_nil]; omega
    | cons m' l' => simp only [renderMembers, List.length_append, List.length_cons] at ih ⊢; omega

/-- the whole document `{` members `}` parses to the object of its members -/
theorem parse_object (l : List Mem) (hne : l ≠ []) (hwf : ∀ m ∈ l, m.WF) :
    parse (c '{' :: renderMembers l []) = some (.obj (l.map Mem.kv)) := by
  obtain ⟨tl, htl⟩ := renderMembers_head l hne []
  have hlen := renderMembers_length l []
  have hpm := parseMembers_render l hne hwf 1 [] ((renderMembers l []).length + 1) (by omega)
  unfold parse
  rw [List.length_cons, parseValue.eq_def]
  simp only [skipSpace_cons (c '{') _ (by decide)]
  simp only [if_true, maxDepth, show ¬ (0 + 1 > 10000) by decide, if_false]
  rw [htl, skipSpace_cons (c '"') _ (by decide)]
  simp only [show c '"' ≠ c '}' by decide, if_false]
  rw [← htl, hpm]
  simp [skipSpace]

/-! ### the member loop -/

/-- the field of `CollectedClientData` a member name selects, in the order the member loop asks (5: none) -/
def fieldOf (k : Bytes) : Nat :=
  if nameIs k "type" then 0 else if nameIs k "challenge" then 1 else if nameIs k "origin" then 2
  else if nameIs k "crossOrigin" then 3 else if nameIs k "tokenBinding" then 4 else 5

/-- the member agrees with the client data ⟨t, ch, o⟩: under the name of a string field it holds that string, and a
    `crossOrigin` or `tokenBinding` value has the type of its field -/
def Fits (t ch o : Bytes) (kv : Bytes × JVal) : Prop :=
  match fieldOf kv.1 with
  | 0 => kv.2 = .str t
  | 1 => kv.2 = .str ch
  | 2 => kv.2 = .str o
  | 3 => storeBoolOK kv.2 = true
  | 4 => storeTokenBindingOK kv.2 = true
  | _ => True

def names (i : Nat) (kvs : List (Bytes × JVal)) : Bool := kvs.any (fun kv => fieldOf kv.1 == i)

/-- on members that agree with ⟨t, ch, o⟩, whatever their names, order and multiplicity, the member loop stores the
    unquoted strings of the fields named, keeps the others, and raises no type error -/
theorem storeMembers_fits (t ch o : Bytes) (kvs : List (Bytes × JVal)) (h : ∀ kv ∈ kvs, Fits t ch o kv) :
    ∀ f ok, storeMembers f ok kvs =
      (⟨bif names 0 kvs then unq t else f.type, bif names 1 kvs then unq ch else f.challenge,
        bif names 2 kvs then unq o else f.origin⟩, ok) := by
  induction kvs with
  | nil => intro f ok; rfl
  | cons kv kvs ih =>
    intro f ok
    obtain ⟨k, v⟩ := kv
    have hkv := h (k, v) (List.mem_cons_self ..)
    have ih' := ih (fun x hx => h x (List.mem_cons_of_mem _ hx))
    rw [storeMembers]
    by_cases h0 : nameIs k "type" = true
    · have hf : fieldOf k = 0 := by simp [fieldOf, h0]
      rw [Fits, hf] at hkv
      have hv : v = .str t := hkv
      simp [h0, hv, storeString, ih', names, hf]
    by_cases h1 : nameIs k "challenge" = true
    · have hf : fieldOf k = 1 := by simp [fieldOf, h0, h1]
      rw [Fits, hf] at hkv
      have hv : v = .str ch := hkv
      simp [h0, h1, hv, storeString, ih', names, hf]
    by_cases h2 : nameIs k "origin" = true
    · have hf : fieldOf k = 2 := by simp [fieldOf, h0, h1, h2]
      rw [Fits, hf] at hkv
      have hv : v = .str o := hkv
      simp [h0, h1, h2, hv, storeString, ih', names, hf]
    by_cases h3 : nameIs k "crossOrigin" = true
    · have hf : fieldOf k = 3 := by simp [fieldOf, h0, h1, h2, h3]
      rw [Fits, hf] at hkv
      have hv : storeBoolOK v = true := hkv
      simp [h0, h1, h2, h3, hv, ih', names, hf]
    by_cases h4 : nameIs k "tokenBinding" = true
    · have hf : fieldOf k = 4 := by simp [fieldOf, h0, h1, h2, h3, h4]
      rw [Fits, hf] at hkv
      have hv : storeTokenBindingOK v = true := hkv
      simp [h0, h1, h2, h3, h4, hv, ih', names, hf]
    · have hf : fieldOf k = 5 := by simp [fieldOf, h0, h1, h2, h3, h4]
      simp [h0, h1, h2, h3, h4, ih', names, hf]

/-- a document of well-formed members that agree with ⟨t, ch, o⟩ and name its three fields is read as ⟨t, ch, o⟩ -/
theorem clientData_fits (t ch o : Bytes) (ht : PlainBytes t) (hc : PlainBytes ch) (ho : PlainBytes o)
    (l : List Mem) (hne : l ≠ []) (hl : ∀ m ∈ l, m.WF ∧ Fits t ch o m.kv)
    (h0 : names 0 (l.map Mem.kv) = true) (h1 : names 1 (l.map Mem.kv) = true) (h2 : names 2 (l.map Mem.kv) = true) :
    clientData (c '{' :: renderMembers l []) = some ⟨t, ch, o⟩ := by
  have hfit : ∀ kv ∈ l.map Mem.kv, Fits t ch o kv := by
    intro kv hkv
    obtain ⟨m, hm, rfl⟩ := List.mem_map.1 hkv
    exact (hl m hm).2
  unfold clientData
  rw [parse_object l hne (fun m hm => (hl m hm).1)]
  simp only [storeMembers_fits t ch o _ hfit, h0, h1, h2, cond_true, if_true, unq_plain _ ht, unq_plain _ hc, unq_plain _ ho]

/-! ### the members clients write -/

def mStr (k : String) (s : Bytes) : Mem := ⟨k.toUTF8.toList, c '"' :: s ++ [c '"'], .str s⟩
def mCross (b : Bool) : Mem := ⟨"crossOrigin".toUTF8.toList, if b then "true".toUTF8.toList else "false".toUTF8.toList, .bool b⟩

theorem names_facts :
    (PlainBytes "type".toUTF8.toList ∧ fieldOf "type".toUTF8.toList = 0) ∧
    (PlainBytes "challenge".toUTF8.toList ∧ fieldOf "challenge".toUTF8.toList = 1) ∧
    (PlainBytes "origin".toUTF8.toList ∧ fieldOf "origin".toUTF8.toList = 2) ∧
    (PlainBytes "crossOrigin".toUTF8.toList ∧ fieldOf "crossOrigin".toUTF8.toList = 3) := by decide +kernel

theorem mStr_ok (k : String) (i : Nat) (s t ch o : Bytes) (hk : PlainBytes k.toUTF8.toList ∧ fieldOf k.toUTF8.toList = i)
    (hs : PlainBytes s) (hi : Fits t ch o (k.toUTF8.toList, .str s)) : (mStr k s).WF ∧ Fits t ch o (mStr k s).kv :=
  ⟨⟨hk.1, valOK_quote s hs⟩, hi⟩

theorem mCross_ok (b : Bool) (t ch o : Bytes) : (mCross b).WF ∧ Fits t ch o (mCross b).kv := by
  refine ⟨⟨names_facts.2.2.2.1, ?_⟩, by unfold Fits Mem.kv mCross; rw [names_facts.2.2.2.2]; exact rfl⟩
  cases b
  · rw [show (mCross false).vb = [c 'f', c 'a', c 'l', c 's', c 'e'] by decide +kernel]; exact valOK_false
  · rw [show (mCross true).vb = [c 't', c 'r', c 'u', c 'e'] by decide +kernel]; exact valOK_true

/-- the canonical client data document, members in any order, with any number of boolean `crossOrigin` members -/
theorem clientData_members (t ch o : Bytes) (ht : PlainBytes t) (hc : PlainBytes ch) (ho : PlainBytes o)
    (l : List Mem) (X : List Bool)
    (hl : l.Perm (mStr "type" t :: mStr "challenge" ch :: mStr "origin" o :: X.map mCross)) :
    clientData (c '{' :: renderMembers l []) = some ⟨t, ch, o⟩ := by
  obtain ⟨k0, k1, k2, -⟩ := names_facts
  have hne : l ≠ [] := fun h => by simpa [h] using hl.length_eq
  have hnames : ∀ i, names i (l.map Mem.kv) = _ := fun i => (hl.map Mem.kv).any_eq
  refine clientData_fits t ch o ht hc ho l hne ?_ ?_ ?_ ?_
  · intro m hm
    have := hl.mem_iff.1 hm
    simp only [List.mem_cons, List.mem_map] at this
    rcases this with rfl | rfl | rfl | ⟨b, -, rfl⟩
    · exact mStr_ok _ 0 t t ch o k0 ht (by unfold Fits; rw [k0.2]; exact rfl)
    · exact mStr_ok _ 1 ch t ch o k1 hc (by unfold Fits; rw [k1.2]; exact rfl)
    · exact mStr_ok _ 2 o t ch o k2 ho (by unfold Fits; rw [k2.2]; exact rfl)
    · exact mCross_ok b t ch o
  · rw [hnames]; simp only [List.map_cons, List.any_cons, Mem.kv, mStr, k0.2, beq_self_eq_true, Bool.true_or]
  · rw [hnames]; simp only [List.map_cons, List.any_cons, Mem.kv, mStr, k1.2, beq_self_eq_true, Bool.true_or, Bool.or_true]
  · rw [hnames]; simp only [List.map_cons, List.any_cons, Mem.kv, mStr, k2.2, beq_self_eq_true, Bool.true_or, Bool.or_true]

end WebAuthn.Json.Lemmas
