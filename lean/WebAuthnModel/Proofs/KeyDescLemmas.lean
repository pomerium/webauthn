import WebAuthnModel.Proofs.Asn1Lemmas
/-
  The repository's schemas (Model/KeyDesc.lean: RootOfTrust, AuthorizationList, KeyDescription, the Apple nonce) as
  instances of the struct layer of Asn1Lemmas.lean, for Theorems/C17Asn1.lean.
-/
namespace WebAuthn.Proofs.Asn1Lemmas
open WebAuthn WebAuthn.Asn1 WebAuthn.Spec.Asn1 WebAuthn.KeyDesc WebAuthn.Generated.Asn1Schema

def rotOpsVal : SubOps RotVal :=
  { parse := parseFields noSub rootOfTrust
    zero := zeroRot
    isZero := fun v => v.length == rootOfTrust.length &&
      (List.zipWith (fun f x => isZeroFV noSub f.ty x) rootOfTrust v).all id
    body := marshalFields noSub rootOfTrust }

def alOpsVal : SubOps AuthListVal :=
  { parse := parseFields alSub authorizationList
    zero := zeroAuthList
    isZero := fun v => v.length == authorizationList.length &&
      (List.zipWith (fun f x => isZeroFV alSub f.ty x) authorizationList v).all id
    body := marshalFields alSub authorizationList }

theorem rotOps_eq : rotOps = some rotOpsVal := rfl

theorem alOps_eq : alOps = some alOpsVal := rfl

theorem rot_roundtrip (r : RotVal) (h : WFRot r) :
    ∃ body, marshalFields noSub rootOfTrust r = some body ∧
      (body.length < 2 ^ 31 → ∀ rest, parseFields noSub rootOfTrust (body ++ rest) = some r) := by
  obtain ⟨key, locked, state, hash, rfl, hs⟩ := h
  exact plain_roundtrip _ _ _ (by decide)
    ⟨presentOK_bytes _ _ _ rfl, presentOK_bool _ _ _ rfl, presentOK_enum _ _ _ rfl hs, presentOK_bytes _ _ _ rfl,
      trivial⟩

/-- what the round trip and the stall need of a member of the AuthorizationList schema, as a test `decide` can run -/
def alFieldB (f : Field) : Bool :=
  f.explicit && f.optional &&
    (match f.tag with
      | some tg => decide (tg < 2 ^ 31) && (!flagTags.contains tg || f.ty == .flag)
      | none => false) &&
    match f.ty with
      | .struct n => n == "RootOfTrust"
      | _ => true

theorem authList_fields (f : Field) (hf : f ∈ authorizationList) :
    OptFieldOK f ∧ (∀ n, f.ty = .struct n → n = "RootOfTrust") ∧
      (∀ tg ∈ flagTags, f.tag = some tg → f.ty = .flag) := by
  have h : alFieldB f = true := (show ∀ f ∈ authorizationList, alFieldB f = true by decide) f hf
  unfold alFieldB at h
  rcases htag : f.tag with _ | tg
  · simp [htag] at h
  · simp only [htag, Bool.and_eq_true, Bool.or_eq_true, Bool.not_eq_true', decide_eq_true_eq, beq_iff_eq] at h
    obtain ⟨⟨⟨hex, hopt⟩, htg, hfl⟩, hn⟩ := h
    refine ⟨⟨hex, hopt, tg, htag, htg⟩, fun n hty => by simpa [hty] using hn, fun tg' htg' e => ?_⟩
    obtain rfl := Option.some.inj e
    exact hfl.resolve_left (by simpa using htg')

theorem authList_tags_distinct : authorizationList.Pairwise (fun a b => a.tag ≠ b.tag) := by
  decide

theorem zeroRot_isZero : rotOpsVal.isZero zeroRot = true := by decide

theorem wfRot_not_isZero (r : RotVal) (h : WFRot r) : rotOpsVal.isZero r = false := by
  obtain ⟨key, locked, state, hash, rfl, -⟩ := h
  simp [rotOpsVal, rootOfTrust, isZeroFV, isZeroP]

theorem optOK_of_wf (f : Field) (x : FV RotVal) (hn : ∀ n, f.ty = .struct n → n = "RootOfTrust")
    (h : WFAuthField f x) : OptOK alSub f x := by
  unfold WFAuthField at h
  split at h
  · -- int
    rename_i i hty
    refine ⟨fun hz => ?_, fun _ => presentOK_int _ _ _ hty h⟩
    simp [isZeroFV, isZeroP] at hz
    simp [hty, zeroOf, hz]
  · -- flag
    rename_i b hty
    refine ⟨fun hz => ?_, fun hz => ?_⟩
    · simp [isZeroFV, isZeroP] at hz
      simp [hty, zeroOf, hz]
    · simp [isZeroFV, isZeroP] at hz
      subst hz
      exact presentOK_flag _ _ hty
  · -- bytes
    rename_i b hty
    refine ⟨fun hz => ?_, fun hz => ?_⟩
    · simp [isZeroFV, isZeroP] at hz
      simp [hty, zeroOf, hz]
    · simp [isZeroFV, isZeroP] at hz
      obtain ⟨bb, rfl⟩ := Option.isSome_iff_exists.mp (by simpa using hz)
      exact presentOK_bytes _ _ _ hty
  · -- ints none
    rename_i hty
    refine ⟨fun _ => by simp [hty, zeroOf], fun hz => ?_⟩
    simp [isZeroFV, isZeroP] at hz
  · -- ints some
    rename_i l hty
    refine ⟨fun hz => ?_, fun _ => presentOK_ints _ _ _ hty h.1 (fun _ => h.2)⟩
    simp [isZeroFV, isZeroP] at hz
  · -- struct
    rename_i n r hty
    obtain rfl := hn n hty
    have hsub : alSub "RootOfTrust" = some rotOpsVal := (if_pos rfl).trans rotOps_eq
    refine ⟨fun hz => ?_, fun hz => ?_⟩
    · simp only [isZeroFV, hty, hsub] at hz
      rcases h with rfl | hw
      · simp [hty, zeroOf, hsub, rotOpsVal]
      · rw [wfRot_not_isZero r hw] at hz; exact absurd hz (by simp)
    · simp only [isZeroFV, hty, hsub] at hz
      rcases h with rfl | hw
      · rw [zeroRot_isZero] at hz; exact absurd hz (by simp)
      · obtain ⟨body, hb, hp⟩ := rot_roundtrip r hw
        exact presentOK_struct _ _ _ _ _ body hty hsub hb (fun hl => by simpa [rotOpsVal] using hp hl [])
  · exact absurd h id

theorem allOK_of_wfFields (fs : List Field) (xs : AuthListVal)
    (hn : ∀ f ∈ fs, ∀ n, f.ty = .struct n → n = "RootOfTrust") (h : WFFields fs xs) : AllOK (OptOK alSub) fs xs := by
  induction fs generalizing xs with
  | nil => cases xs <;> exact h
  | cons f fs ih =>
    cases xs with
    | nil => exact h
    | cons x xs => exact ⟨optOK_of_wf f x (hn f (by simp)) h.1, ih xs (fun g hg => hn g (by simp [hg])) h.2⟩

theorem authList_roundtrip (v : AuthListVal) (h : WFAuthList v) :
    ∃ body, marshalFields alSub authorizationList v = some body ∧
      (body.length < 2 ^ 31 → parseFields alSub authorizationList body = some v) := by
  obtain ⟨body, hm, hp⟩ := opt_roundtrip alSub authorizationList v (fun f hf => (authList_fields f hf).1)
    authList_tags_distinct (allOK_of_wfFields _ _ (fun f hf => (authList_fields f hf).2.1) h)
  exact ⟨body, hm, fun hl => (hp hl).2⟩

theorem kdSub_authList : kdSub "AuthorizationList" = some alOpsVal := (if_pos rfl).trans alOps_eq

theorem presentOK_authList (f : Field) (hty : f.ty = .struct "AuthorizationList") (l : AuthListVal) (h : WFAuthList l) :
    PresentOK kdSub f (.sub l) := by
  obtain ⟨body, hm, hp⟩ := authList_roundtrip l h
  exact presentOK_struct kdSub f _ alOpsVal l body hty kdSub_authList hm hp

theorem kd_fields_roundtrip (v : KDVal) (h : WFKD v) :
    ∃ body, marshalFields kdSub keyDescription v = some body ∧
      (body.length < 2 ^ 31 → ∀ rest, parseFields kdSub keyDescription (body ++ rest) = some v) := by
  obtain ⟨ver, sec, kmVer, kmSec, chal, uid, sw, tee, rfl, hver, hsec, hkmVer, hkmSec, hsw, htee⟩ := h
  exact plain_roundtrip kdSub keyDescription _ (by decide)
    ⟨presentOK_int _ _ _ rfl hver, presentOK_enum _ _ _ rfl hsec, presentOK_int _ _ _ rfl hkmVer,
      presentOK_enum _ _ _ rfl hkmSec, presentOK_bytes _ _ _ rfl, presentOK_bytes _ _ _ rfl,
      presentOK_authList _ rfl _ hsw, presentOK_authList _ rfl _ htee, trivial⟩

/-- the member-wise zero of `zeroAuthList` -/
def zeroMember (f : Field) : FV RotVal :=
  match f.ty with
  | .int | .enum => .prim (.int 0)
  | .flag | .bool => .prim (.bool false)
  | .bytes => .prim (.bytes none)
  | .intList => .prim (.ints none)
  | .struct _ => .sub zeroRot

theorem zeroAuthList_eq : zeroAuthList = authorizationList.map zeroMember := rfl

theorem zeroOf_alSub (f : Field) (hn : ∀ n, f.ty = .struct n → n = "RootOfTrust") :
    zeroOf alSub f.ty = some (zeroMember f) := by
  unfold zeroMember
  cases hty : f.ty with
  | struct n =>
    obtain rfl := hn n hty
    simp [zeroOf, alSub, rotOps_eq, rotOpsVal]
  | _ => rfl

def nonceField : Field := ⟨"Nonce", .bytes, some 1, true, false, false⟩

theorem apple_schema : appleAnonymousAttestation = [nonceField] := rfl

end WebAuthn.Proofs.Asn1Lemmas
