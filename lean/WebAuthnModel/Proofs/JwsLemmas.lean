import WebAuthnModel.Spec.Attestation
import WebAuthnModel.Proofs.Run
/-
  The android-safetynet verifier over the Lean JWS model: the header chain parser, `Jws.signatureOK` as a statement about the
  environment, and the acceptance characterisation (used by Theorems/C04 and, for `run_signatureOK`, Theorems/C15).
-/
namespace WebAuthn.JwsLemmas
open WebAuthn WebAuthn.Att WebAuthn.Spec.Att Prog

/-- `ChainParsed` is the successful run of `List.mapM` with the certificate parser as the step -/
theorem chainParsed_iff_mapM (env : Prog.Env) (ds : List Bytes) (cs : List (Bytes × CertView)) :
    ChainParsed env ds cs ↔ ds.mapM (fun der => (run env (askCert der)).map (der, ·)) = some cs := by
  induction ds generalizing cs with
  | nil => cases cs <;> simp [ChainParsed]
  | cons der rest ih =>
    rw [mapM_cons_eq_some]
    cases cs with
    | nil => simp [ChainParsed]
    | cons p cs =>
      simp only [ChainParsed, ih, Option.map_eq_some_iff, run_askCert, List.cons.injEq]
      constructor
      · rintro ⟨rfl, h1, h2⟩; exact ⟨_, _, ⟨_, h1, rfl⟩, h2, rfl, rfl⟩
      · rintro ⟨_, _, ⟨_, h1, rfl⟩, h2, rfl, rfl⟩; exact ⟨rfl, h1, h2⟩

/-- `parseChain` succeeds with `cs` exactly when every entry parses as a certificate, in order -/
theorem parseChain_iff (env : Prog.Env) (ds : List Bytes) (cs : List (Bytes × CertView)) :
    Prog.run env (parseChain ds) = some cs ↔ ChainParsed env ds cs := by
  rw [chainParsed_iff_mapM, run_traverse env parseChain _ rfl]
  intro der rest
  simp only [parseChain, run_bind]
  cases run env (askCert der) with
  | none => rfl
  | some c => simp only [run_bind]; cases run env (parseChain rest) <;> rfl

/-- the opaque branch: acceptance ⇔ the opaque answer passes every step and carries the expected nonce -/
theorem opaque_iff (env : Prog.Env) (raw : Bytes) (o : AttObj) (h : Bytes) (res : Result) :
    Prog.run env (verifySafetyNetOpaque raw o h) = some res ↔
      ∃ v, env.answer (.safetyNet raw) = .safetyNet v ∧ v.parsed = true ∧ v.chainsOK = true ∧ v.claimsOK = true ∧
        v.nonce = Spec.sha256 env (o.authData ++ h) ∧ res = ⟨"Basic", []⟩ := by
  simp only [verifySafetyNetOpaque, Prog.run_bind, Prog.run_query]
  cases ha : env.answer (.safetyNet raw) with
  | safetyNet v =>
    simp only [run_guard_eq_some, run_bind, run_sha256, run_pure, Bool.not_eq_true', Bool.not_eq_false, ne_eq,
      Decidable.not_not, Option.some.injEq, Resp.safetyNet.injEq, exists_eq_left', eq_comm (a := res)]
  | _ => simp

/-- `Jws.signatureOK` as a statement about the environment -/
theorem run_signatureOK (env : Prog.Env) (raw : Bytes) (c : Jws.Compact) (der : Bytes) (key : KeyMat) :
    Prog.run env (Jws.signatureOK raw c der key) = true ↔ Jws.SignedBy env raw c der key := by
  unfold Jws.signatureOK Jws.SignedBy
  cases hv : c.verifiable with
  | false => simp
  | true =>
    simp only [Bool.not_true, Bool.false_eq_true, if_false, true_and]
    cases hpl : Jws.verifyPlan c.alg key c.signature with
    | reject => simp
    | primitive s hh sig => exact run_askBool env _
    | «opaque» => exact run_askBool env _

/-- the compact branch -/
theorem compact_iff (env : Prog.Env) (raw : Bytes) (c : Jws.Compact) (o : AttObj) (h : Bytes) (res : Result) :
    Prog.run env (verifySafetyNetCompact raw c o h) = some res ↔
      ∃ der cert rest nonce, ChainParsed env c.x5c ((der, cert) :: rest) ∧
        env.answer (.x509Verify der (rest.map (·.1)) safetyNetDNSName) = .bool true ∧
        Jws.SignedBy env raw c der cert.key ∧ Jws.claims c.payload = some nonce ∧
        nonce = Spec.sha256 env (o.authData ++ h) ∧ res = ⟨"Basic", []⟩ := by
  constructor
  · intro hr
    simp only [verifySafetyNetCompact, run_bind] at hr
    split at hr
    · cases hr
    · cases hr
    next der cert rest hp =>
      simp only [run_guardM_eq_some] at hr
      obtain ⟨hv, hs, hr⟩ := hr
      split at hr
      · cases hr
      next nonce hcl =>
        simp only [run_bind, run_sha256, run_guard_eq_some, run_pure, ne_eq, Decidable.not_not, Option.some.injEq] at hr
        exact ⟨der, cert, rest, nonce, (parseChain_iff ..).1 hp, (run_askBool ..).1 hv, (run_signatureOK ..).1 hs, hcl,
          hr.1, hr.2.symm⟩
  · rintro ⟨der, cert, rest, nonce, hch, hv, hs, hcl, hn, rfl⟩
    simp [verifySafetyNetCompact, (parseChain_iff ..).2 hch, (run_askBool ..).2 hv, (run_signatureOK ..).2 hs, hcl,
      run_sha256, hn]

/-- android-safetynet: acceptance ⇔ `SafetyNetOK` -/
theorem verifySafetyNet_iff (env : Prog.Env) (o : AttObj) (h : Bytes) (res : Result) :
    Prog.run env (verifySafetyNet o h) = some res ↔ SafetyNetOK env o h res := by
  constructor
  · intro hr
    simp only [verifySafetyNet] at hr
    split at hr
    · cases hr
    next raw hraw =>
      split at hr
      · cases hr
      next hp =>
        obtain ⟨v, ha, h1, h2, h3, h4, rfl⟩ := (opaque_iff ..).1 hr
        exact ⟨raw, v.nonce, hraw, .opaque v hp ha h1 h2 h3 rfl, h4, rfl⟩
      next c hp =>
        obtain ⟨der, cert, rest, nonce, hch, hv, hs, hcl, hn, rfl⟩ := (compact_iff ..).1 hr
        exact ⟨raw, nonce, hraw, .compact c der cert rest hp hch hv hs hcl, hn, rfl⟩
  · rintro ⟨raw, nonce, hraw, hresp, hn, rfl⟩
    cases hresp with
    | compact c der cert rest hp hch hv hs hcl =>
      simp only [verifySafetyNet, hraw, hp]
      exact (compact_iff ..).2 ⟨der, cert, rest, nonce, hch, hv, hs, hcl, hn, rfl⟩
    | «opaque» v hp ha h1 h2 h3 h4 =>
      simp only [verifySafetyNet, hraw, hp]
      exact (opaque_iff ..).2 ⟨v, ha, h1, h2, h3, h4.trans hn, rfl⟩

end WebAuthn.JwsLemmas
