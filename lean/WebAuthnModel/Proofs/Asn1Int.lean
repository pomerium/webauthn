import WebAuthnModel.Spec.Asn1
import WebAuthnModel.Proofs.BytesLemmas
/-
  INTEGER contents (`twos`, `checkInteger`, `intLen`, `encInt`) for every length at once: a byte string of length n
  is the two's complement of exactly the integers in [-256ⁿ/2, 256ⁿ/2), `checkInteger` says the value does not fit
  n - 1 bytes, and `intLen` is the least length that fits.  Numbers enter only at the int64 bound.
-/
namespace WebAuthn.Proofs.Asn1Lemmas
open WebAuthn WebAuthn.Asn1 WebAuthn.Bytes

/-- the range test of `intLenAux`: `i` is an `n`-byte two's-complement value -/
def Fits (n : Nat) (i : Int) : Prop := -((2 : Int) ^ (8 * n - 1)) ≤ i ∧ i < (2 : Int) ^ (8 * n - 1)

theorem fits_succ (k : Nat) (i : Int) :
    Fits (k + 1) i ↔ -(128 * ((256 ^ k : Nat) : Int)) ≤ i ∧ i < 128 * ((256 ^ k : Nat) : Int) := by
  have e : (2 : Int) ^ (8 * (k + 1) - 1) = 128 * ((256 ^ k : Nat) : Int) := by
    rw [show 8 * (k + 1) - 1 = 7 + 8 * k by omega, Int.pow_add, Int.pow_mul, Int.natCast_pow]; rfl
  rw [Fits, e]

theorem Fits.mono {k m : Nat} {i : Int} (h : Fits k i) (hkm : k ≤ m) : Fits m i := by
  have : (2 : Int) ^ (8 * k - 1) ≤ (2 : Int) ^ (8 * m - 1) := by
    exact_mod_cast Nat.pow_le_pow_right (n := 2) (by decide) (show 8 * k - 1 ≤ 8 * m - 1 by omega)
  unfold Fits at *; omega

theorem fits_eight (i : Int) : Fits 8 i ↔ Spec.Asn1.Int64 i := by
  unfold Fits Spec.Asn1.Int64
  simp only [Nat.reduceMul, Nat.reduceSub, Int.reducePow]; omega

/-! ### `twos` -/

theorem pow256_succ (k : Nat) : (256 : Int) ^ (k + 1) = 256 * ((256 ^ k : Nat) : Int) := by
  rw [Int.pow_succ, Int.natCast_pow, Int.mul_comm]; rfl

/-- for `i` in [-H, H): the residue mod 2H -/
theorem emod_two_mul (i H : Int) (h1 : -H ≤ i) (h2 : i < H) : i % (2 * H) = if i < 0 then i + 2 * H else i := by
  split
  · rw [← Int.add_emod_right, Int.emod_eq_of_lt (by omega) (by omega)]
  · exact Int.emod_eq_of_lt (by omega) (by omega)

theorem Fits.emod {k : Nat} {i : Int} (h : Fits (k + 1) i) :
    i % (256 : Int) ^ (k + 1) = if i < 0 then i + 256 * ((256 ^ k : Nat) : Int) else i := by
  rw [fits_succ] at h
  rw [pow256_succ, show 256 * ((256 ^ k : Nat) : Int) = 2 * (128 * ((256 ^ k : Nat) : Int)) by omega,
    emod_two_mul _ _ h.1 h.2]

theorem twos_cons (a : UInt8) (t : Bytes) :
    twos (a :: t) =
      if 128 * 256 ^ t.length ≤ beNat (a :: t) then (beNat (a :: t) : Int) - 256 * ((256 ^ t.length : Nat) : Int)
      else beNat (a :: t) := by
  have := beNat_cons_lt_iff a t 128
  simp only [twos, List.length_cons, pow256_succ]
  by_cases h : a.toNat < 128
  · rw [if_neg (by omega), if_neg (by omega)]
  · rw [if_pos (by omega), if_pos (by omega)]

theorem twos_fits (b : Bytes) (h : b ≠ []) : Fits b.length (twos b) := by
  obtain ⟨a, t, rfl⟩ := List.exists_cons_of_ne_nil h
  have h1 := beNat_lt (a :: t)
  rw [List.length_cons, Nat.pow_succ] at h1
  rw [List.length_cons, fits_succ, twos_cons]
  split <;> omega

theorem twos_emod (b : Bytes) : (twos b % (256 : Int) ^ b.length).toNat = beNat b := by
  rcases b with _ | ⟨a, t⟩
  · rfl
  have hf := twos_fits (a :: t) (by simp)
  have h1 := beNat_lt (a :: t)
  rw [List.length_cons, Nat.pow_succ] at h1
  rw [List.length_cons, hf.emod, twos_cons]
  split <;> split <;> omega

/-- the bytes are the two's complement of their value -/
theorem ofNatBE_twos (b : Bytes) : ofNatBE b.length (twos b % (256 : Int) ^ b.length).toNat = b := by
  rw [twos_emod, ofNatBE_beNat _ _ rfl]

/-- the value of the two's complement is the integer -/
theorem twos_ofNatBE (n : Nat) (i : Int) (hn : n ≠ 0) (h : Fits n i) :
    twos (ofNatBE n (i % (256 : Int) ^ n).toNat) = i := by
  obtain ⟨k, rfl⟩ := Nat.exists_eq_succ_of_ne_zero hn
  rw [Nat.succ_eq_add_one] at *
  rw [h.emod]
  rw [fits_succ] at h
  generalize hm' : (if i < 0 then i + 256 * ((256 ^ k : Nat) : Int) else i).toNat = m
  have hmi : (m : Int) = if i < 0 then i + 256 * ((256 ^ k : Nat) : Int) else i := by
    rw [← hm']; exact Int.toNat_of_nonneg (by split <;> omega)
  have hb := beNat_ofNatBE (k + 1) m (by rw [Nat.pow_succ]; split at hmi <;> omega)
  rw [ofNatBE] at hb ⊢
  rw [twos_cons, hb, length_ofNatBE]
  split at hmi <;> split <;> omega

/-! ### `checkInteger`: the value needs all its bytes -/

/-- a value with leading byte `a` over a tail `s` of modulus `P * 256` fits the tail's length iff `a` only extends the
    tail's sign -/
theorem fits_tail_iff (a s P : Nat) (v : Int) (ha : a < 256) (hs : s < P * 256)
    (hv : v = if 128 * (P * 256) ≤ a * (P * 256) + s then ((a * (P * 256) + s : Nat) : Int) - 256 * ((P * 256 : Nat) : Int)
      else ((a * (P * 256) + s : Nat) : Int)) :
    (-(128 * (P : Int)) ≤ v ∧ v < 128 * (P : Int)) ↔ (a = 0 ∧ s < 128 * P) ∨ (a = 255 ∧ 128 * P ≤ s) := by
  -- the product `a * (P * 256)` is known exactly in each of the four ranges of `a`
  by_cases h0 : a = 0
  · rw [h0, Nat.zero_mul] at hv; split at hv <;> omega
  by_cases h255 : a = 255
  · rw [h255] at hv; split at hv <;> omega
  by_cases h128 : a < 128
  · have := Nat.mul_le_mul_right (P * 256) (show 1 ≤ a by omega)
    have := Nat.mul_le_mul_right (P * 256) (show a ≤ 127 by omega)
    generalize a * (P * 256) = aQ at *
    split at hv <;> omega
  · have := Nat.mul_le_mul_right (P * 256) (show a ≤ 254 by omega)
    have := Nat.mul_le_mul_right (P * 256) (show 128 ≤ a by omega)
    generalize a * (P * 256) = aQ at *
    split at hv <;> omega

theorem checkInteger_cons_cons (a c : UInt8) (t : Bytes) :
    checkInteger (a :: c :: t) = true ↔ ¬ Fits (t.length + 1) (twos (a :: c :: t)) := by
  have hs := beNat_lt (c :: t)
  rw [List.length_cons, Nat.pow_succ] at hs
  rw [fits_succ, fits_tail_iff a.toNat (beNat (c :: t)) (256 ^ t.length) _ a.toNat_lt hs
    (by rw [twos_cons, beNat_cons, List.length_cons, Nat.pow_succ]), beNat_cons_lt_iff, Nat.not_lt.symm,
    beNat_cons_lt_iff]
  have e0 : a = 0 ↔ a.toNat = 0 := UInt8.toNat_inj.symm
  have e255 : a = 255 ↔ a.toNat = 255 := UInt8.toNat_inj.symm
  simp only [checkInteger, Bool.not_eq_true', Bool.or_eq_false_iff, Bool.and_eq_false_iff, beq_eq_false_iff_ne,
    decide_eq_false_iff_not, ne_eq, e0, e255]
  omega

theorem checkInteger_iff (b : Bytes) :
    checkInteger b = true ↔ b ≠ [] ∧ (b.length = 1 ∨ ¬ Fits (b.length - 1) (twos b)) := by
  rcases b with _ | ⟨a, _ | ⟨c, t⟩⟩
  · simp [checkInteger]
  · simp [checkInteger]
  · rw [checkInteger_cons_cons]; simp

/-! ### `intLen`: the least length that fits -/

theorem intLenAux_spec (fuel n : Nat) (i : Int) :
    n ≤ intLenAux fuel n i ∧ intLenAux fuel n i ≤ n + fuel ∧ (∀ k, n ≤ k → k < intLenAux fuel n i → ¬ Fits k i) ∧
      (intLenAux fuel n i < n + fuel → Fits (intLenAux fuel n i) i) := by
  induction fuel generalizing n with
  | zero => exact ⟨Nat.le_refl _, Nat.le_refl _, fun k h1 h2 => by simp only [intLenAux] at h2; omega,
      fun h => by simp only [intLenAux] at h; omega⟩
  | succ fuel ih =>
    by_cases hf : Fits n i
    · rw [show intLenAux (fuel + 1) n i = n from if_pos hf]
      exact ⟨Nat.le_refl _, by omega, fun k h1 h2 => by omega, fun _ => hf⟩
    · rw [show intLenAux (fuel + 1) n i = intLenAux fuel (n + 1) i from if_neg hf]
      obtain ⟨h1, h2, h3, h4⟩ := ih (n + 1)
      refine ⟨by omega, by omega, fun k hk1 hk2 => ?_, fun h => h4 (by omega)⟩
      by_cases hk : k = n
      · exact hk ▸ hf
      · exact h3 k (by omega) hk2

theorem intLen_eq (i : Int) (n : Nat) (h1 : 1 ≤ n) (h8 : n ≤ 8) (hf : Fits n i) (hm : n = 1 ∨ ¬ Fits (n - 1) i) :
    intLen i = n := by
  obtain ⟨g1, g2, g3, g4⟩ := intLenAux_spec 7 1 i
  rw [← intLen] at g1 g2 g3 g4
  have hge : n ≤ intLen i := by
    apply Nat.le_of_not_lt
    intro hlt
    rcases hm with hm | hm
    · omega
    · exact hm ((g4 (by omega)).mono (by omega))
  have hle : ¬ n < intLen i := fun hlt => g3 n h1 hlt hf
  omega

theorem intLen_spec (i : Int) (h : Spec.Asn1.Int64 i) :
    1 ≤ intLen i ∧ intLen i ≤ 8 ∧ Fits (intLen i) i ∧ (intLen i = 1 ∨ ¬ Fits (intLen i - 1) i) := by
  obtain ⟨g1, g2, g3, g4⟩ := intLenAux_spec 7 1 i
  rw [← intLen] at g1 g2 g3 g4
  refine ⟨g1, g2, ?_, ?_⟩
  · by_cases h8 : intLen i < 1 + 7
    · exact g4 h8
    · rw [show intLen i = 8 by omega]; exact (fits_eight i).mpr h
  · by_cases h1 : intLen i = 1
    · exact Or.inl h1
    · exact Or.inr (g3 _ (by omega) (by omega))

/-! ### encoder and parser -/

theorem encInt_length (i : Int) : 1 ≤ (encInt i).length ∧ (encInt i).length ≤ 8 := by
  obtain ⟨g1, g2, -, -⟩ := intLenAux_spec 7 1 i
  rw [encInt, length_ofNatBE, intLen]; omega

theorem parseInt64_encInt' (i : Int) (h : Spec.Asn1.Int64 i) : parseInt64 (encInt i) = some i := by
  obtain ⟨h1, h8, hf, hm⟩ := intLen_spec i h
  have ht : twos (encInt i) = i := twos_ofNatBE _ i (by omega) hf
  have hl : (encInt i).length = intLen i := length_ofNatBE _ _
  have hc : checkInteger (encInt i) = true := by
    rw [checkInteger_iff, ht, hl]
    exact ⟨fun e => by rw [e] at hl; simp at hl; omega, hm⟩
  rw [parseInt64, hc, hl, if_neg (by simp), if_neg (by omega), ht]

/-- DER integers are canonical -/
theorem encInt_of_parseInt64' (b : Bytes) (i : Int) (h : parseInt64 b = some i) :
    encInt i = b ∧ Spec.Asn1.Int64 i := by
  simp only [parseInt64, Option.ite_none_left_eq_some, Option.some.injEq, Bool.not_eq_true, Bool.not_eq_false',
    Nat.not_lt] at h
  obtain ⟨hc, hl, rfl⟩ := h
  obtain ⟨hne, hm⟩ := (checkInteger_iff b).mp hc
  have hf := twos_fits b hne
  have hpos : 1 ≤ b.length := by cases b <;> simp at hne ⊢
  have hn : intLen (twos b) = b.length := intLen_eq _ _ hpos (by omega) hf hm
  exact ⟨by rw [encInt, hn, ofNatBE_twos], (fits_eight _).mp (hf.mono (by omega))⟩

end WebAuthn.Proofs.Asn1Lemmas
