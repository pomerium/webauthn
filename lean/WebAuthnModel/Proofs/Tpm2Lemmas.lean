import WebAuthnModel.Model.Tpm2
import WebAuthnModel.Proofs.BytesLemmas
/-
  Lemmas about the TPM structure codec of `Model/Tpm2.lean`.  Every field decoder `d` (fixed-width field, TPM2B, name,
  symmetric / signature / KDF scheme) has a lemma of one shape: from `d b = some (v, r)`, the encoding of `v` followed by any
  `r'` decodes to `(v, r')`.  The hypothesis is found by `simp (disch := assumption)`, so the re-encoding theorems for whole
  structures are rewriting with these lemmas after the structure's own case analysis (`fun_cases`).
-/
namespace WebAuthn.Tpm2
open WebAuthn

/-! ## fixed-width fields -/

@[simp] theorem pad_length (w n : Nat) : (pad w n).length = w := Bytes.length_ofNatBE w n

theorem be_pad (w n : Nat) (h : n < 256 ^ w) : be (pad w n) = n := Bytes.beNat_ofNatBE w n h

theorem pad_be (w : Nat) (x : Bytes) (h : x.length = w) : pad w (be x) = x := Bytes.ofNatBE_beNat w x h

theorem fixed_append (n : Nat) (x : Bytes) (h : x.length = n) (r : Bytes) : fixed n (x ++ r) = some (be x, r) := by
  unfold fixed
  rw [if_neg (by rw [List.length_append]; omega), Bytes.take_append_of_length _ _ _ h, Bytes.drop_append_of_length _ _ _ h]

theorem fixed_pad (n v : Nat) (h : v < 256 ^ n) (r : Bytes) : fixed n (pad n v ++ r) = some (v, r) := by
  rw [fixed_append _ _ (pad_length _ _), be_pad _ _ h]

/-- what a successful `fixed` says about its input -/
theorem fixed_some {n : Nat} {b : Bytes} {v : Nat} {r : Bytes} (h : fixed n b = some (v, r)) :
    v < 256 ^ n ∧ (b.take n).length = n ∧ v = be (b.take n) ∧ r = b.drop n := by
  revert h
  fun_cases fixed n b <;> intro h <;> cases h
  have hl : (b.take n).length = n := by rw [List.length_take]; omega
  have := Bytes.beNat_lt (b.take n)
  rw [hl] at this
  exact ⟨this, hl, rfl, rfl⟩

theorem fixed_reencode {n : Nat} {b : Bytes} {v : Nat} {r : Bytes} (h : fixed n b = some (v, r)) (r' : Bytes) :
    fixed n (pad n v ++ r') = some (v, r') := fixed_pad n v (fixed_some h).1 r'

/-- the raw bytes of a field, followed by anything, decode to the same value -/
theorem fixed_take {n : Nat} {b : Bytes} {v : Nat} {r : Bytes} (h : fixed n b = some (v, r)) (r' : Bytes) :
    fixed n (b.take n ++ r') = some (v, r') := by
  obtain ⟨-, hl, rfl, -⟩ := fixed_some h
  exact fixed_append n _ hl r'

theorem take_take_append {n : Nat} {b : Bytes} {v : Nat} {r : Bytes} (h : fixed n b = some (v, r)) (r' : Bytes) :
    (b.take n ++ r').take n = b.take n := Bytes.take_append_of_length _ _ _ (fixed_some h).2.1

/-- a block of `n` bytes copied raw (the guard `r.length < n` has been passed), followed by anything -/
theorem take_block {n : Nat} {r : Bytes} (h : ¬ r.length < n) (r' : Bytes) :
    ¬ (r.take n ++ r').length < n ∧ (r.take n ++ r').take n = r.take n ∧ (r.take n ++ r').drop n = r' := by
  have hl : (r.take n).length = n := by rw [List.length_take]; omega
  exact ⟨by rw [List.length_append, hl]; omega, Bytes.take_append_of_length _ _ _ hl, Bytes.drop_append_of_length _ _ _ hl⟩

/-! ## TPM2B -/

theorem u16bytes_some {b x r : Bytes} (h : u16bytes b = some (x, r)) : x.length < 65536 := by
  revert h
  fun_cases u16bytes b <;> intro h <;> cases h
  have := (fixed_some ‹_›).1
  rw [List.length_take]
  omega

theorem u16bytes_append (x : Bytes) (h : x.length < 65536) (r : Bytes) :
    u16bytes (pad 2 x.length ++ (x ++ r)) = some (x, r) := by
  unfold u16bytes
  rw [fixed_pad _ _ (by omega)]
  dsimp only
  rw [if_neg (by rw [List.length_append]; omega), List.take_left, List.drop_left]

theorem u16bytes_reencode {b x r : Bytes} (h : u16bytes b = some (x, r)) (r' : Bytes) :
    u16bytes (pad 2 x.length ++ (x ++ r')) = some (x, r') := u16bytes_append x (u16bytes_some h) r'

/-- the last field of a structure: nothing follows -/
theorem u16bytes_reencode_nil {b x r : Bytes} (h : u16bytes b = some (x, r)) :
    u16bytes (pad 2 x.length ++ x) = some (x, []) := by
  have := u16bytes_reencode h []
  rwa [List.append_nil] at this

/-! ## names -/

theorem hashSize_bounds (h : Nat) : hashSize h ≤ 64 ∧ hashSize h ≠ 2 := by
  fun_cases hashSize h <;> decide

theorem decodeName_of_buf (t : HashTable) (buf : Bytes) (n : TpmName) (hlen : buf.length < 65536)
    (hdec : decodeNameBuf t buf = some n) (r' : Bytes) :
    decodeName t (pad 2 buf.length ++ buf ++ r') = some (n, (if buf.length = 4 then buf else []), r') := by
  unfold decodeName
  rw [List.append_assoc, u16bytes_append _ hlen]
  simp only [hdec, Option.map_some]

/-- an algorithm known to the table, followed by a digest of its hash size, is a name -/
theorem decodeNameBuf_digest (t : HashTable) (alg hid : Nat) (v : Bytes) (halg : alg < 256 ^ 2)
    (hh : hashOf t alg = some hid) (hv : v.length = hashSize hid) :
    decodeNameBuf t (pad 2 alg ++ v) = some (.digest alg v) := by
  obtain ⟨hs64, hs2⟩ := hashSize_bounds hid
  have hbl : (pad 2 alg ++ v).length = 2 + hashSize hid := by rw [List.length_append, pad_length, hv]
  unfold decodeNameBuf
  rw [if_neg (by omega), if_neg (by omega), fixed_pad _ _ halg]
  dsimp only
  rw [hh]
  dsimp only
  rw [if_neg (by rintro ⟨hpos, rfl⟩; simp at hv; omega), List.take_of_length_le (by omega)]
  simp [hv]

/-- a decoded name, re-encoded, decodes to the same name (and the same handle bytes) whatever follows -/
theorem decodeName_reencode {t : HashTable} {b : Bytes} {n : TpmName} {hb r : Bytes}
    (h : decodeName t b = some (n, hb, r)) (r' : Bytes) :
    decodeName t (encodeName n hb ++ r') = some (n, hb, r') := by
  revert h
  fun_cases decodeName t b <;> intro h
  · cases h
  rename_i nb rest hu
  have hnb := u16bytes_some hu
  cases hd : decodeNameBuf t nb with
  | none => rw [hd] at h; cases h
  | some n' =>
    rw [hd] at h
    cases h
    revert hd
    fun_cases decodeNameBuf t nb <;> intro hd <;> cases hd
    · rename_i h0
      rw [if_neg (by omega)]
      exact decodeName_of_buf t [] .none (by decide) rfl r'
    · rename_i h0 h4
      have := decodeName_of_buf t nb .handle hnb (by unfold decodeNameBuf; rw [if_neg h0, if_pos h4]) r'
      rwa [if_pos h4] at this ⊢
    · rename_i h0 h4 alg r0 hf hid hh _ hemp
      rw [if_neg h4]
      -- the digest value has exactly the hash size
      have hv : (r0.take (hashSize hid) ++ List.replicate (hashSize hid - (r0.take (hashSize hid)).length) 0).length
          = hashSize hid := by
        rw [List.length_append, List.length_replicate, List.length_take]; omega
      have := decodeName_of_buf t _ _ (by rw [List.length_append, pad_length, hv]; have := (hashSize_bounds hid).1; omega)
        (decodeNameBuf_digest t alg hid _ (fixed_some hf).1 hh hv) r'
      rwa [if_neg (by rw [List.length_append, pad_length, hv]; have := (hashSize_bounds hid).2; omega)] at this

theorem decodeName_reencode_nil {t : HashTable} {b : Bytes} {n : TpmName} {hb r : Bytes}
    (h : decodeName t b = some (n, hb, r)) : decodeName t (encodeName n hb) = some (n, hb, []) := by
  have := decodeName_reencode h []
  rwa [List.append_nil] at this

/-! ## schemes -/

theorem symScheme_null (r' : Bytes) : symScheme (pad 2 algNull ++ r') = some (pad 2 algNull, r') := by
  unfold symScheme
  rw [fixed_pad _ _ (by decide)]
  simp

theorem symScheme_reencode {b e r : Bytes} (h : symScheme b = some (e, r)) (r' : Bytes) :
    symScheme (e ++ r') = some (e, r') := by
  revert h
  fun_cases symScheme b <;> intro h <;> cases h
  · exact symScheme_null r'
  · split
    · exact symScheme_null r'
    · simp (disch := assumption) only [symScheme, List.append_assoc, fixed_reencode, fixed_take, take_take_append, if_neg]

theorem kdfScheme_null (r' : Bytes) : kdfScheme (pad 2 algNull ++ r') = some (pad 2 algNull, r') := by
  unfold kdfScheme
  rw [fixed_pad _ _ (by decide)]
  simp

theorem kdfScheme_reencode {b e r : Bytes} (h : kdfScheme b = some (e, r)) (r' : Bytes) :
    kdfScheme (e ++ r') = some (e, r') := by
  revert h
  fun_cases kdfScheme b <;> intro h <;> cases h
  · exact kdfScheme_null r'
  · split
    · exact kdfScheme_null r'
    · simp (disch := assumption) only [kdfScheme, List.append_assoc, fixed_reencode, fixed_take, take_take_append, if_neg]

theorem sigScheme_null (r' : Bytes) : sigScheme (pad 2 algNull ++ r') = some (pad 2 algNull, r') := by
  unfold sigScheme
  rw [fixed_pad _ _ (by decide)]
  simp

theorem sigScheme_reencode {b e r : Bytes} (h : sigScheme b = some (e, r)) (r' : Bytes) :
    sigScheme (e ++ r') = some (e, r') := by
  revert h
  fun_cases sigScheme b <;> intro h <;> cases h
  · exact sigScheme_null r'
  · -- ECDAA: hash and count are copied as six raw bytes
    rename_i r0 _ r1 hf2 _ _ _ hf4
    have h6 : r0.take 6 = r0.take 2 ++ r1.take 4 := by rw [(fixed_some hf2).2.2.2]; exact List.take_add (i := 2) (j := 4)
    have hl : (r0.take 2 ++ r1.take 4).length = 6 := by
      rw [List.length_append, (fixed_some hf2).2.1, (fixed_some hf4).2.1]
    simp (disch := assumption) only [sigScheme, List.append_assoc, fixed_reencode, fixed_take, if_neg, h6, if_true]
    rw [← List.append_assoc, Bytes.take_append_of_length _ _ _ hl]
  · split
    · exact sigScheme_null r'
    · simp (disch := assumption) only [sigScheme, List.append_assoc, fixed_reencode, fixed_take, take_take_append, if_neg]

end WebAuthn.Tpm2
