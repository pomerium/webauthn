import WebAuthnModel.Model.Origin
/-
  Proofs about the origin / RP ID label walk (`labelWalk`, `labelWalkLoop`, `originMatches`).
-/
namespace WebAuthn

/-- membership in `suffixesAfterDots c`: exactly the suffixes of `c` that follow a dot. -/
theorem mem_suffixesAfterDots (x c : Bytes) :
    x ∈ suffixesAfterDots c ↔ ∃ p : Bytes, c = p ++ dot :: x := by
  fun_induction suffixesAfterDots c with
  | case1 => simp
  | case2 cs ih =>
    rw [List.mem_cons, ih]
    constructor
    · rintro (rfl | ⟨p, rfl⟩)
      · exact ⟨[], rfl⟩
      · exact ⟨dot :: p, rfl⟩
    · rintro ⟨_ | ⟨b, p⟩, hp⟩
      · exact Or.inl (List.cons.inj hp).2.symm
      · exact Or.inr ⟨p, (List.cons.inj hp).2⟩
  | case3 c cs hc ih =>
    rw [ih]
    constructor
    · rintro ⟨p, rfl⟩; exact ⟨c :: p, rfl⟩
    · rintro ⟨_ | ⟨b, p⟩, hp⟩
      · exact absurd (List.cons.inj hp).1 hc
      · exact ⟨p, (List.cons.inj hp).2⟩

/-- the label walk accepts exactly: RP host non-empty, and client host equal to it or ending with "." ++ rpHost -/
theorem labelWalk_iff (c r : Bytes) :
    labelWalk c r = true ↔ r ≠ [] ∧ (c = r ∨ ∃ p : Bytes, c = p ++ dot :: r) := by
  unfold labelWalk
  rw [List.any_eq_true]
  constructor
  · rintro ⟨x, hx, h⟩
    simp only [Bool.and_eq_true, decide_eq_true_eq, beq_iff_eq] at h
    obtain ⟨hne, rfl⟩ := h
    refine ⟨hne, ?_⟩
    rcases List.mem_cons.mp hx with h | h
    · exact Or.inl h.symm
    · exact Or.inr ((mem_suffixesAfterDots _ _).mp h)
  · rintro ⟨hne, h⟩
    refine ⟨r, ?_, by simp [hne]⟩
    rcases h with h | h
    · simp [h]
    · exact List.mem_cons_of_mem _ ((mem_suffixesAfterDots _ _).mpr h)

theorem afterFirstDot_none {c : Bytes} (h : afterFirstDot c = none) : suffixesAfterDots c = [] := by
  fun_induction afterFirstDot c with
  | case1 => rfl
  | case2 => cases h
  | case3 c cs hc ih => rw [suffixesAfterDots, if_neg hc, ih h]

theorem afterFirstDot_some {c rest : Bytes} (h : afterFirstDot c = some rest) :
    rest.length < c.length ∧ suffixesAfterDots c = rest :: suffixesAfterDots rest := by
  fun_induction afterFirstDot c with
  | case1 => cases h
  | case2 cs => cases h; exact ⟨Nat.lt_succ_self _, by rw [suffixesAfterDots, if_pos rfl]⟩
  | case3 c cs hc ih =>
    obtain ⟨h1, h2⟩ := ih h
    exact ⟨Nat.lt_succ_of_lt h1, by rw [suffixesAfterDots, if_neg hc, h2]⟩

theorem labelWalk_nil_left (r : Bytes) : labelWalk [] r = false := by
  simp [labelWalk, suffixesAfterDots]

theorem labelWalkLoop_eq_of_lt (r : Bytes) (f : Nat) (c : Bytes) :
    c.length < f → labelWalkLoop f c r = labelWalk c r := by
  fun_induction labelWalkLoop f c r <;> intro hlen
  · omega
  · exact (labelWalk_nil_left _).symm
  · rename_i h; simp [labelWalk, h]
  · rename_i hc hcr rest hrest ih
    obtain ⟨h1, h2⟩ := afterFirstDot_some hrest
    rw [ih (by omega)]
    simp [labelWalk, h2, hcr]
  · rename_i hc hcr hnone
    simp [labelWalk, afterFirstDot_none hnone, hcr]

/-- the fuel-based transcription of the Go loop computes the same thing (fuel = length + 1 suffices) -/
theorem labelWalkLoop_eq (c r : Bytes) : labelWalkLoop (c.length + 1) c r = labelWalk c r :=
  labelWalkLoop_eq_of_lt r _ c (Nat.lt_succ_self _)

theorem labelWalk_empty_client (r : Bytes) : labelWalk [] r = false := labelWalk_nil_left r

theorem labelWalk_empty_rp (c : Bytes) : labelWalk c [] = false := by
  rw [← Bool.not_eq_true, labelWalk_iff]
  simp

theorem labelWalk_self (r : Bytes) (h : r ≠ []) : labelWalk r r = true :=
  (labelWalk_iff r r).mpr ⟨h, Or.inl rfl⟩

theorem labelWalk_subdomain (p r : Bytes) (h : r ≠ []) : labelWalk (p ++ dot :: r) r = true :=
  (labelWalk_iff _ r).mpr ⟨h, Or.inr ⟨p, rfl⟩⟩

/-- a parent domain of the RP host is rejected: client = the part of rp after some label prefix -/
theorem labelWalk_parent_rejected (p r : Bytes) (hp : p ≠ []) : labelWalk r (p ++ r) = false := by
  rw [← Bool.not_eq_true, labelWalk_iff]
  rintro ⟨_, h | ⟨q, h⟩⟩
  · exact hp (List.self_eq_append_left.mp h)
  · have := congrArg List.length h
    simp only [List.length_append, List.length_cons] at this
    omega

/-- suffix without a label boundary ("evil" ++ rp) is rejected when the glued prefix is non-empty and does not end in a dot -/
theorem labelWalk_no_boundary_rejected (p r : Bytes) (hp : p ≠ []) (hlast : p.getLast? ≠ some dot) :
    labelWalk (p ++ r) r = false := by
  rw [← Bool.not_eq_true, labelWalk_iff]
  rintro ⟨_, h | ⟨q, h⟩⟩
  · exact hp (List.append_left_eq_self.mp h)
  · have hpq : p = q ++ [dot] := List.append_cancel_right (h.trans (by simp))
    exact hlast (by simp [hpq])

set_option linter.unusedVariables false in
/-- RP host as a prefix label sequence (rp ++ "." ++ q) is rejected unless q itself ends with ".rp" or equals rp.
    (`h1`, `h2` are not needed: `h3`/`h4` already exclude both accepting shapes; `h1`+`h2` alone would NOT
    suffice because of overlaps, e.g. r = "a.a", q = "a": "a.a.a" = "a" ++ "." ++ "a.a" is accepted.) -/
theorem labelWalk_prefix_rejected (r q : Bytes) (h1 : q ≠ r) (h2 : ∀ p, q ≠ p ++ dot :: r)
    (h3 : ∀ p, r ++ dot :: q ≠ p ++ dot :: r) (h4 : r ++ dot :: q ≠ r) :
    labelWalk (r ++ dot :: q) r = false := by
  rw [← Bool.not_eq_true, labelWalk_iff]
  rintro ⟨_, h | ⟨p, h⟩⟩
  · exact h4 h
  · exact h3 p h

/-- variant with a purely structural side condition: when `q` is at least as long as `r`, the
    only ways `r ++ "." ++ q` is accepted are `q = r` or `q` ending in `"." ++ r`. -/
theorem labelWalk_prefix_rejected_of_le (r q : Bytes) (h1 : q ≠ r) (h2 : ∀ p, q ≠ p ++ dot :: r)
    (hlen : r.length ≤ q.length) :
    labelWalk (r ++ dot :: q) r = false := by
  rw [← Bool.not_eq_true, labelWalk_iff]
  rintro ⟨_, h | ⟨p, h⟩⟩
  · exact absurd (List.append_right_eq_self.mp h) (List.cons_ne_nil _ _)
  · -- "." ++ r and "." ++ q are suffixes of the same list, and the first is not the longer one
    have hs : (dot :: r) <:+ (dot :: q) :=
      List.suffix_of_suffix_length_le (h ▸ List.suffix_append p _) (List.suffix_append r _) (by simpa using hlen)
    rcases List.suffix_cons_iff.mp hs with e | ⟨p', e⟩
    · exact h1 (List.cons.inj e).2.symm
    · exact h2 p' e.symm

theorem originMatches_run (env : Prog.Env) (co ro : Bytes) :
    Prog.run env (originMatches co ro) = true ↔
      ∃ ch rh, Url.hostOf co = some ch ∧ Url.hostOf ro = some rh ∧
        labelWalk ch rh = true := by
  unfold originMatches
  cases hc : Url.hostOf co <;> simp only [Prog.run_pure] <;> try (simp; done)
  cases hr : Url.hostOf ro <;> simp [Prog.run_pure]

/-- the origin decision asks nothing: it is the label walk on the two hosts the URL model reports -/
theorem originMatches_run_eq (env : Prog.Env) (co ro : Bytes) :
    Prog.run env (originMatches co ro) =
      (match Url.hostOf co, Url.hostOf ro with
       | some ch, some rh => labelWalk ch rh
       | _, _ => false) := by
  unfold originMatches
  cases hc : Url.hostOf co <;> simp only [Prog.run_pure]
  cases hr : Url.hostOf ro <;> simp only [Prog.run_pure]

end WebAuthn
