import WebAuthnModel.Model.Cose
import WebAuthnModel.Proofs.CborFrame
import WebAuthnModel.Proofs.BytesLemmas
/-
  `Cose.marshal` produces well-formed CBOR: decoding the output of `encStruct` gives back the map of the members that
  were encoded, and decoding that map into a struct gives the members back (the marshal/parse round trip of C11).
-/
namespace WebAuthn.Cose
open WebAuthn Cbor

/-- major type in the high three bits, additional information in the low five -/
theorem firstByte (m : Nat) (k : UInt8) (hm : m < 8) (hk : k.toNat < 32) :
    (UInt8.ofNat (m * 32) + k).toNat / 32 = m ∧ (UInt8.ofNat (m * 32) + k).toNat % 32 = k.toNat := by
  rw [UInt8.toNat_add, UInt8.toNat_ofNat']
  omega

theorem toNat_ofNat_small (n : Nat) (h : n < 256) : (UInt8.ofNat n).toNat = n := by
  rw [UInt8.toNat_ofNat']; omega

theorem head_encHead (m n : Nat) (hm : m < 7) (hn : n < 2 ^ 32) (s : Bytes) :
    ∃ ai, ai ≠ 31 ∧ (n < 24 → ai = n) ∧ head (encHead m n ++ s) = some (⟨m, ai, n⟩, s) := by
  unfold encHead
  simp only []
  by_cases h1 : n < 24
  · have hk := toNat_ofNat_small n (by omega)
    obtain ⟨e1, e2⟩ := firstByte m (UInt8.ofNat n) (by omega) (by omega)
    exact ⟨n, by omega, fun _ => rfl, by rw [if_pos h1, List.singleton_append, head_imm (by omega), e1, e2, hk]⟩
  by_cases h2 : n < 256
  · obtain ⟨e1, e2⟩ := firstByte m 24 (by omega) (by decide)
    refine ⟨24, by omega, fun _ => by omega, ?_⟩
    rw [if_neg h1, if_pos h2]
    exact (head_arg1 e2 (by omega)).trans (by rw [e1, e2, toNat_ofNat_small n h2]; rfl)
  by_cases h3 : n < 65536
  · obtain ⟨e1, e2⟩ := firstByte m 25 (by omega) (by decide)
    refine ⟨25, by omega, fun _ => by omega, ?_⟩
    rw [if_neg h1, if_neg h2, if_pos h3]
    exact (head_arg2 e2).trans (by rw [e1, e2]; exact congrArg (fun v => some (Head.mk m 25 v, s)) (Bytes.beNat_ofNatBE 2 n (by omega)))
  · obtain ⟨e1, e2⟩ := firstByte m 26 (by omega) (by decide)
    refine ⟨26, by omega, fun _ => by omega, ?_⟩
    rw [if_neg h1, if_neg h2, if_neg h3, if_pos (by omega)]
    exact (head_arg4 e2).trans (by rw [e1, e2]; exact congrArg (fun v => some (Head.mk m 26 v, s)) (Bytes.beNat_ofNatBE 4 n (by omega)))
/-- the CBOR value of an integer -/
def valOfInt (i : Int) : Value := if i ≥ 0 then .uint i.toNat else .nint (-1 - i).toNat

def SmallInt (i : Int) : Prop := -(2 ^ 32) ≤ i ∧ i < 2 ^ 32

theorem item_encInt (i : Int) (hi : SmallInt i) (f d : Nat) (s : Bytes) :
    item (f + 1) d (encInt i ++ s) = some (valOfInt i, s) := by
  unfold encInt valOfInt
  obtain ⟨h1, h2⟩ := hi
  by_cases h : i ≥ 0
  · obtain ⟨ai, _, _, hh⟩ := head_encHead 0 i.toNat (by omega) (by omega) s
    simp only [h, if_true]
    exact item_leaf hh (.inl Nat.zero_lt_two)
  · obtain ⟨ai, _, _, hh⟩ := head_encHead 1 (-1 - i).toNat (by omega) (by omega) s
    simp only [h, if_false]
    exact item_leaf hh (.inl Nat.one_lt_two)

theorem item_encBytes (b : Bytes) (hb : b.length < 2 ^ 32) (f d : Nat) (s : Bytes) :
    item (f + 1) d (encBytes b ++ s) = some (.bytes b, s) := by
  unfold encBytes
  obtain ⟨ai, hai, _, hh⟩ := head_encHead 2 b.length (by omega) hb (b ++ s)
  rw [List.append_assoc, item_string hh (.inl rfl) hai]
  show wrap Value.bytes (takeExact b.length (b ++ s)) = _
  rw [takeExact_eq_some.2 ⟨rfl, rfl⟩]
  rfl


/-- a member's value as encoded, as decoded, and whether `omitempty` leaves the member out -/
def encVal : FieldVal → Bytes
  | .int i => encInt i
  | .bytes b => encBytes b

def valOf : FieldVal → Value
  | .int i => valOfInt i
  | .bytes b => .bytes b

def omitted : FieldVal → Bool
  | .int i => i = 0
  | .bytes b => b = []

def MemOK : Int × FieldVal → Prop
  | (k, .int i) => SmallInt k ∧ SmallInt i
  | (k, .bytes b) => SmallInt k ∧ b.length < 2 ^ 32

theorem MemOK.key {m : Int × FieldVal} (h : MemOK m) : SmallInt m.1 := by
  obtain ⟨k, i | b⟩ := m <;> exact h.1

theorem item_encVal {k : Int} {fv : FieldVal} (h : MemOK (k, fv)) (f d : Nat) (s : Bytes) :
    item (f + 1) d (encVal fv ++ s) = some (valOf fv, s) := by
  cases fv with
  | int i => exact item_encInt i h.2 f d s
  | bytes b => exact item_encBytes b h.2 f d s

theorem encMembers_cons (k : Int) (fv : FieldVal) (ms : List (Int × FieldVal)) :
    encMembers ((k, fv) :: ms) = if omitted fv then encMembers ms else (encInt k ++ encVal fv) :: encMembers ms := by
  cases fv <;> simp [encMembers, omitted, encVal]

/-- the flat key/value list of the members that are encoded (mirrors `encMembers`) -/
def memberVals : List (Int × FieldVal) → List Value
  | [] => []
  | (k, fv) :: rest => if omitted fv then memberVals rest else valOfInt k :: valOf fv :: memberVals rest

theorem memberVals_cons (k : Int) (fv : FieldVal) (ms : List (Int × FieldVal)) :
    memberVals ((k, fv) :: ms) = if omitted fv then memberVals ms else valOfInt k :: valOf fv :: memberVals ms := by
  rw [memberVals]

theorem items_two (f d n : Nat) (p1 p2 rest s' : Bytes) (v1 v2 : Value) (vs : List Value)
    (h1 : ∀ s g, item (g + 1) d (p1 ++ s) = some (v1, s))
    (h2 : ∀ s g, item (g + 1) d (p2 ++ s) = some (v2, s))
    (h3 : items (f + 1) d n rest = some (vs, s')) :
    items (f + 3) d (n + 2) ((p1 ++ p2) ++ rest) = some (v1 :: v2 :: vs, s') := by
  rw [items, List.append_assoc, h1]
  simp only []
  rw [items, h2]
  simp only []
  rw [h3]

theorem items_members (ms : List (Int × FieldVal)) (hok : ∀ m ∈ ms, MemOK m) (d : Nat) (s : Bytes) :
    ∀ f, 2 * (encMembers ms).length ≤ f →
      items (f + 1) d (2 * (encMembers ms).length) ((encMembers ms).flatten ++ s) = some (memberVals ms, s) := by
  induction ms with
  | nil => intro f _; simp [encMembers, memberVals, items]
  | cons m ms ih =>
    have ih := ih (fun m' hm' => hok m' (List.mem_cons_of_mem _ hm'))
    have hm := hok m (List.mem_cons_self ..)
    obtain ⟨k, fv⟩ := m
    rw [encMembers_cons, memberVals_cons]
    by_cases hz : omitted fv = true
    · simpa only [if_pos hz] using ih
    · intro f hf
      simp only [if_neg hz, List.length_cons, List.flatten_cons] at hf ⊢
      obtain ⟨f', rfl⟩ : ∃ f', f = f' + 2 := ⟨f - 2, by omega⟩
      rw [List.append_assoc, show 2 * ((encMembers ms).length + 1) = 2 * (encMembers ms).length + 2 by omega]
      exact items_two _ _ _ _ _ _ _ _ _ _ (fun s g => item_encInt k hm.key g d s) (fun s g => item_encVal hm g d s)
        (ih f' (by omega))

theorem encMembers_length_le (ms : List (Int × FieldVal)) : (encMembers ms).length ≤ ms.length := by
  induction ms with
  | nil => simp [encMembers]
  | cons m ms ih =>
    rw [encMembers_cons]
    split <;> simp only [List.length_cons] <;> omega

theorem decode_encStruct (ms : List (Int × FieldVal)) (hok : ∀ m ∈ ms, MemOK m) (hl : ms.length < 24) :
    decode (encStruct ms) = some (.map (memberVals ms), []) := by
  have hl' := encMembers_length_le ms
  unfold encStruct
  simp only []
  obtain ⟨ai, hai, hai', hh⟩ := head_encHead 5 (encMembers ms).length (by omega) (by omega) ((encMembers ms).flatten)
  generalize hb : encHead 5 (encMembers ms).length ++ (encMembers ms).flatten = b at hh
  have h1 : ¬ (0 + 1 > maxNested) := by simp [maxNested]
  have h2 : ¬ ((encMembers ms).length > maxElems) := by simp [maxElems]; omega
  rw [decode_eq_item (2 * (encMembers ms).length + fuelFor b + 1 + 1) b (by omega), item_container hh (.inr rfl),
    if_neg h1, if_neg hai, if_neg h2]
  have := items_members ms hok 1 [] (2 * (encMembers ms).length + fuelFor b) (by omega)
  rw [List.append_nil] at this
  exact congrArg (wrap Value.map) this

/-! ### decoding the members back into a struct -/

theorem decodeField_int (i : Int) (hi : SmallInt i) : decodeField .int (valOfInt i) = .set (.int i) := by
  obtain ⟨h1, h2⟩ := hi
  unfold valOfInt
  by_cases h : i ≥ 0
  · have : i.toNat < 2 ^ 63 := by omega
    have e : ((i.toNat : Nat) : Int) = i := by omega
    simp only [h, if_true, decodeField, this, e]
  · have : (-1 - i).toNat < 2 ^ 63 := by omega
    have e : -1 - (((-1 - i).toNat : Nat) : Int) = i := by omega
    simp only [h, if_false, decodeField, this, e, if_true]

theorem decodeField_uint8 (n : Nat) (h : n ≤ 255) : decodeField .uint8 (.uint n) = .set (.int n) := by
  simp [decodeField, h]
theorem decodeField_bytes (b : Bytes) : decodeField .bytes (.bytes b) = .set (.bytes b) := rfl

theorem valOfInt_1 : valOfInt 1 = .uint 1 := rfl
theorem valOfInt_2 : valOfInt 2 = .uint 2 := rfl
theorem valOfInt_3 : valOfInt 3 = .uint 3 := rfl
theorem valOfInt_6 : valOfInt 6 = .uint 6 := rfl
theorem valOfInt_m1 : valOfInt (-1) = .nint 0 := rfl
theorem valOfInt_m2 : valOfInt (-2) = .nint 1 := rfl
theorem valOfInt_m3 : valOfInt (-3) = .nint 2 := rfl
theorem valOfInt_m8 : valOfInt (-8) = .nint 7 := rfl

theorem intKey_valOfInt (k : Int) (hk : SmallInt k) : intKey (valOfInt k) = some k := by
  obtain ⟨h1, h2⟩ := hk
  unfold valOfInt
  split
  · have : k.toNat < 2 ^ 63 := by omega
    simp only [intKey, this, if_true]; congr 1; omega
  · have : (-1 - k).toNat < 2 ^ 63 := by omega
    simp only [intKey, this, if_true]; congr 1; omega

/-- what `structEntry` does with an integer key -/
theorem structEntry_valOfInt (schema : List (Int × FieldKind)) (st : StructState) (k : Int) (hk : SmallInt k) (val : Value) :
    structEntry schema st (valOfInt k) val =
      match schemaKind schema k with
      | none => st
      | some kind =>
        if st.found.contains k then st
        else match decodeField kind val with
          | .set v => { st with found := k :: st.found, vals := (k, v) :: st.vals }
          | .keep => { st with found := k :: st.found }
          | .err => { st with found := k :: st.found, err := true }
          | .unmodelled => { st with found := k :: st.found, unmodelled := true } := by
  have hi := intKey_valOfInt k hk
  obtain ⟨n, hv | hv⟩ : ∃ n, valOfInt k = .uint n ∨ valOfInt k = .nint n := by
    unfold valOfInt; split
    · exact ⟨_, .inl rfl⟩
    · exact ⟨_, .inr rfl⟩
  all_goals
    rw [hv] at hi ⊢
    simp only [structEntry, hi]
    cases hs : schemaKind schema k with
    | none => rfl
    | some kind =>
      simp only [Option.isSome_some, if_true, hs]
      split
      · rfl
      · cases decodeField kind val <;> rfl

/-- One encoded member decoded into the struct: the state afterwards differs from the one before at most at key `k`,
where it holds the member unless `omitempty` left it out. -/
theorem member_step (schema : List (Int × FieldKind)) (st : StructState) (k : Int) (fv : FieldVal)
    (ms : List (Int × FieldVal)) (hk : SmallInt k) (hnf : st.found.contains k = false)
    (hfit : ∀ kind, schemaKind schema k = some kind → decodeField kind (valOf fv) = .set fv) :
    ∃ st1 : StructState, structEntries schema st (memberVals ((k, fv) :: ms)) = structEntries schema st1 (memberVals ms) ∧
      st1.err = st.err ∧ st1.unmodelled = st.unmodelled ∧ (st1.found = st.found ∨ st1.found = k :: st.found) ∧
      (∀ k', k' ≠ k → st1.vals.find? (·.1 == k') = st.vals.find? (·.1 == k')) ∧
      ((schemaKind schema k).isSome → st1.vals.find? (·.1 == k) = if omitted fv then st.vals.find? (·.1 == k) else some (k, fv)) := by
  rw [memberVals_cons]
  by_cases hz : omitted fv = true
  · exact ⟨st, by rw [if_pos hz], rfl, rfl, .inl rfl, fun _ _ => rfl, fun _ => by rw [if_pos hz]⟩
  rw [if_neg hz, structEntries, structEntry_valOfInt schema st k hk]
  cases hs : schemaKind schema k with
  | none => exact ⟨st, rfl, rfl, rfl, .inl rfl, fun _ _ => rfl, nofun⟩
  | some kind =>
    simp only [hnf, Bool.false_eq_true, if_false, hfit kind hs]
    refine ⟨_, rfl, rfl, rfl, .inr rfl, fun k' hk' => ?_, fun _ => ?_⟩
    · exact List.find?_cons_of_neg (by simpa using fun h => hk' h.symm)
    · rw [if_neg hz]; exact List.find?_cons_of_pos (by simp)

theorem structEntries_memberVals (schema : List (Int × FieldKind)) (ms : List (Int × FieldVal)) :
    ∀ (st : StructState), (∀ m ∈ ms, SmallInt m.1) →
      (∀ m ∈ ms, ∀ kind, schemaKind schema m.1 = some kind → decodeField kind (valOf m.2) = .set m.2) →
      (ms.map (·.1)).Nodup → (∀ m ∈ ms, st.found.contains m.1 = false) →
      (structEntries schema st (memberVals ms)).err = st.err ∧
      (structEntries schema st (memberVals ms)).unmodelled = st.unmodelled ∧
      (∀ m ∈ ms, (schemaKind schema m.1).isSome →
        (structEntries schema st (memberVals ms)).vals.find? (·.1 == m.1) =
          if omitted m.2 then st.vals.find? (·.1 == m.1) else some m) ∧
      (∀ k, k ∉ ms.map (·.1) →
        (structEntries schema st (memberVals ms)).vals.find? (·.1 == k) = st.vals.find? (·.1 == k)) := by
  induction ms with
  | nil => exact fun st _ _ _ _ => ⟨rfl, rfl, nofun, fun _ _ => rfl⟩
  | cons m ms ih =>
    obtain ⟨k, fv⟩ := m
    intro st hsm hfit hnd hnf
    obtain ⟨hk, hnd⟩ := List.nodup_cons.1 hnd
    obtain ⟨st1, e, he, hu, hf, hne, hat⟩ := member_step schema st k fv ms (hsm _ (List.mem_cons_self ..))
      (hnf _ (List.mem_cons_self ..)) (hfit _ (List.mem_cons_self ..))
    -- a later member has another key, so it is not yet found and the step at `k` does not touch its value
    have hne' : ∀ m ∈ ms, m.1 ≠ k := fun m hm h => hk (h ▸ List.mem_map_of_mem (f := (·.1)) hm)
    obtain ⟨ie, iu, ia, ib⟩ := ih st1 (fun m hm => hsm m (List.mem_cons_of_mem _ hm))
      (fun m hm => hfit m (List.mem_cons_of_mem _ hm)) hnd (fun m hm => by
        rcases hf with hf | hf <;> rw [hf]
        · exact hnf m (List.mem_cons_of_mem _ hm)
        · simpa [hne' m hm] using hnf m (List.mem_cons_of_mem _ hm))
    rw [e]
    refine ⟨ie.trans he, iu.trans hu, fun m hm hs => ?_, fun k' hk' => ?_⟩
    · rcases List.mem_cons.1 hm with rfl | hm
      · exact (ib k hk).trans (hat hs)
      · rw [ia m hm hs, hne _ (hne' m hm)]
    · simp only [List.map_cons, List.mem_cons, not_or] at hk'
      rw [ib k' hk'.2, hne k' hk'.1]

/-- the member kinds a value can be decoded into -/
def kindFits : FieldKind → FieldVal → Bool
  | .int, .int _ => true
  | .uint8, .int i => 0 ≤ i && i ≤ 255
  | .bytes, .bytes _ => true
  | _, _ => false

theorem decodeField_valOf (k : Int) (kind : FieldKind) (fv : FieldVal) (hm : MemOK (k, fv)) (hk : kindFits kind fv = true) :
    decodeField kind (valOf fv) = .set fv := by
  cases kind <;> cases fv <;> simp only [kindFits, Bool.false_eq_true, Bool.and_eq_true, decide_eq_true_eq] at hk
  · rename_i i
    have e : ((i.toNat : Nat) : Int) = i := by omega
    rw [valOf, valOfInt, if_pos hk.1, decodeField_uint8 _ (by omega), e]
  · exact decodeField_int _ hm.2
  · rfl

/-- Decoding the encoded members into a struct gives every member of the schema back, the omitted ones as the zero values
they are: reading the result is reading `ms`. -/
theorem decodeStruct_memberVals (schema : List (Int × FieldKind)) (ms : List (Int × FieldVal)) (hok : ∀ m ∈ ms, MemOK m)
    (hfit : (ms.all fun m => match schemaKind schema m.1 with | none => true | some kind => kindFits kind m.2) = true)
    (hnd : (ms.map (·.1)).Nodup) :
    ∃ vals, decodeStruct schema (.map (memberVals ms)) = .ok vals ∧
      ∀ k, (schemaKind schema k).isSome → getInt vals k = getInt ms k ∧ getBytes vals k = getBytes ms k := by
  obtain ⟨he, hu, ha, hb⟩ := structEntries_memberVals schema ms {}
    (fun m hm => (hok m hm).key)
    (fun m hm kind hs => by
      have := List.all_eq_true.1 hfit m hm
      rw [hs] at this
      exact decodeField_valOf m.1 kind m.2 (hok m hm) this)
    hnd (fun _ _ => rfl)
  refine ⟨_, by simp only [decodeStruct, he, hu]; rfl, fun k hs => ?_⟩
  unfold getInt getBytes
  cases hf : ms.find? (·.1 == k) with
  | none =>
    rw [hb k (fun hk => by
      obtain ⟨m, hm, rfl⟩ := List.mem_map.1 hk
      simpa using List.find?_eq_none.1 hf m hm)]
    exact ⟨rfl, rfl⟩
  | some m =>
    obtain rfl : m.1 = k := by simpa using List.find?_some hf
    rw [ha m (List.mem_of_find?_eq_some hf) hs]
    obtain ⟨k, i | b⟩ := m
    · by_cases hi : i = 0 <;> simp [omitted, hi]
    · by_cases hb : b = [] <;> simp [omitted, hb]

theorem stripZeros_length_le (b : Bytes) : (Bytes.stripZeros b).length ≤ b.length := by
  induction b with
  | nil => simp [Bytes.stripZeros]
  | cons x xs ih =>
    unfold Bytes.stripZeros
    split
    · simp only [List.length_cons]; omega
    · exact Nat.le_refl _

end WebAuthn.Cose
