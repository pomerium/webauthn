import WebAuthnModel.Model.Asn1
import WebAuthnModel.Proofs.BytesLemmas
/-
  Identifier and length octets: base-128 tag numbers (`base128` / `encBase128`), long-form lengths (`lengthBytes` /
  `natBytes`), and `parseTL` as strict DER with `encTL` as its inverse.  The parsers are generalised over their
  accumulators; the 2³¹ limits are the only numbers.
-/
namespace WebAuthn.Proofs.Asn1Lemmas
open WebAuthn WebAuthn.Asn1 WebAuthn.Bytes

theorem u8_toNat_ofNat (n : Nat) : (UInt8.ofNat n).toNat = n % 256 := UInt8.toNat_ofNat'

theorem u8_ofNat_eq (x : UInt8) (m : Nat) (h : m % 256 = x.toNat) : UInt8.ofNat m = x :=
  UInt8.toNat_inj.mp (by rw [u8_toNat_ofNat, h])

theorem u8_lt (x : UInt8) : x.toNat < 256 := x.toNat_lt

/-! ## base-128 tag numbers -/

/-- the states `base128` reaches from `(0, 0)` over continuation bytes: `acc` has exactly `s` base-128 digits -/
inductive Digits128 : Nat → Nat → Prop
  | zero : Digits128 0 0
  | snoc {s acc d : Nat} : Digits128 s acc → d < 128 → (s = 0 → d ≠ 0) → Digits128 (s + 1) (acc * 128 + d)

theorem Digits128.eq_zero {s acc : Nat} (h : Digits128 s acc) (ha : acc = 0) : s = 0 := by
  induction h with
  | zero => rfl
  | snoc _ _ h0 ih => exact absurd (show _ = 0 by omega) (h0 (ih (by omega)))

theorem Digits128.lt {s acc : Nat} (h : Digits128 s acc) : acc < 128 ^ s := by
  induction h with
  | zero => decide
  | snoc _ hd _ ih => rw [Nat.pow_succ]; omega

theorem exists_digits128 (k q : Nat) (h : q < 128 ^ k) : ∃ s, s ≤ k ∧ Digits128 s q := by
  induction k generalizing q with
  | zero => exact ⟨0, Nat.le_refl _, by rw [show q = 0 by omega]; exact .zero⟩
  | succ k ih =>
    by_cases hq : q = 0
    · exact ⟨0, Nat.zero_le _, hq ▸ .zero⟩
    · obtain ⟨s, hs, hd⟩ := ih (q / 128) (by rw [Nat.pow_succ] at h; omega)
      refine ⟨s + 1, by omega, ?_⟩
      rw [show q = q / 128 * 128 + q % 128 by omega]
      exact hd.snoc (by omega) (fun hs0 e => by have := hd.lt; rw [hs0] at this; omega)

theorem base128Digits_snoc (s acc d : Nat) (h : Digits128 s acc) (hd : d < 128) :
    base128Digits (s + 1) (acc * 128 + d) = base128Digits s acc ++ [d] := by
  rw [base128Digits]
  by_cases ha : acc = 0
  · obtain rfl := h.eq_zero ha
    subst ha
    rw [if_pos (by omega)]; simp [base128Digits]
  · rw [if_neg (by omega), show (acc * 128 + d) / 128 = acc by omega, show (acc * 128 + d) % 128 = d by omega]

/-- more fuel than digits changes nothing -/
theorem base128Digits_fuel (f g n : Nat) (h : n < 128 ^ (f + 1)) (hfg : f ≤ g) :
    base128Digits (g + 1) n = base128Digits (f + 1) n := by
  induction f generalizing g n with
  | zero => rw [base128Digits, base128Digits, if_pos (by omega), if_pos (by omega)]
  | succ f ih =>
    obtain ⟨g, rfl⟩ : ∃ g', g = g' + 1 := ⟨g - 1, by omega⟩
    rw [base128Digits.eq_2 n, base128Digits.eq_2 n]
    split
    · rfl
    · rw [ih g (n / 128) (by rw [Nat.div_lt_iff_lt_mul (by decide), ← Nat.pow_succ]; exact h) (by omega)]

/-- the continuation bytes that bring `base128` to the state `(s, acc)` -/
def contBytes (s acc : Nat) : Bytes := (base128Digits s acc).map fun d => UInt8.ofNat (128 + d)

theorem contBytes_snoc (s acc : Nat) (x : UInt8) (h : Digits128 s acc) (hx : 128 ≤ x.toNat) :
    contBytes (s + 1) (acc * 128 + x.toNat % 128) = contBytes s acc ++ [x] := by
  rw [contBytes, base128Digits_snoc s acc _ h (by omega), List.map_append, List.map_cons, List.map_nil,
    u8_ofNat_eq x _ (by have := u8_lt x; omega)]
  rfl

theorem encBase128_snoc (s acc d : Nat) (h : Digits128 s acc) (hs : s ≤ 9) (hd : d < 128) :
    encBase128 (acc * 128 + d) = contBytes s acc ++ [UInt8.ofNat d] := by
  have hlt : acc * 128 + d < 128 ^ (s + 1) := by have := h.lt; rw [Nat.pow_succ]; omega
  simp only [encBase128, base128Digits_fuel s 9 _ hlt hs, base128Digits_snoc s acc d h hd, List.dropLast_concat,
    List.getLast?_concat, Option.map_some, Option.getD_some, contBytes]

theorem base128_cons (s acc : Nat) (x : UInt8) (rest : Bytes) :
    base128 s acc (x :: rest) =
      if s = 5 then none
      else if s = 0 ∧ x = 0x80 then none
      else if x.toNat < 128 then
        (if acc * 128 + x.toNat % 128 > 2147483647 then none else some (acc * 128 + x.toNat % 128, rest))
      else base128 (s + 1) (acc * 128 + x.toNat % 128) rest := rfl

/-- the parser after the continuation bytes of `acc` is in state `(s, acc)` -/
theorem base128_contBytes {s acc : Nat} (h : Digits128 s acc) (tl : Bytes) (hs : s ≤ 5) :
    base128 0 0 (contBytes s acc ++ tl) = base128 s acc tl := by
  induction h generalizing tl with
  | zero => rfl
  | @snoc s acc d h hd h0 ih =>
    have hx : (UInt8.ofNat (128 + d)).toNat = 128 + d := by rw [u8_toNat_ofNat]; omega
    have e := contBytes_snoc s acc (UInt8.ofNat (128 + d)) h (by omega)
    rw [hx, show (128 + d) % 128 = d by omega] at e
    rw [e, List.append_assoc, ih _ (by omega), List.singleton_append, base128_cons, hx, if_neg (by omega), if_neg,
      if_neg (by omega), show (128 + d) % 128 = d by omega]
    rintro ⟨hs0, hx0⟩
    have h80 : (128 + d) % 256 = 128 := (u8_toNat_ofNat _).symm.trans (congrArg UInt8.toNat hx0)
    exact h0 hs0 (by omega)

/-- encoder then parser -/
theorem base128_encBase128 (n : Nat) (rest : Bytes) (h : n < 2 ^ 31) :
    base128 0 0 (encBase128 n ++ rest) = some (n, rest) := by
  obtain ⟨s, hs, hd⟩ := exists_digits128 4 (n / 128) (by omega)
  have e := encBase128_snoc s (n / 128) (n % 128) hd (by omega) (by omega)
  have hx : (UInt8.ofNat (n % 128)).toNat = n % 128 := by rw [u8_toNat_ofNat]; omega
  rw [show n / 128 * 128 + n % 128 = n by omega] at e
  rw [e, List.append_assoc, base128_contBytes hd _ (by omega), List.singleton_append, base128_cons, hx,
    if_neg (by omega), if_neg, if_pos (by omega), if_neg (by omega), show n / 128 * 128 + n % 128 % 128 = n by omega]
  rintro ⟨-, hx0⟩
  have h80 : n % 128 % 256 = 128 := (u8_toNat_ofNat _).symm.trans (congrArg UInt8.toNat hx0)
  omega

/-- what parses is what the encoder writes -/
theorem base128_canonical_gen (b r : Bytes) (s acc t : Nat) (hd : Digits128 s acc) (hs : s ≤ 5)
    (h : base128 s acc b = some (t, r)) : contBytes s acc ++ b = encBase128 t ++ r ∧ t < 2 ^ 31 := by
  induction b generalizing s acc with
  | nil => exact absurd h (by simp [base128])
  | cons x rest ih =>
    have hx := u8_lt x
    simp only [base128_cons, Option.ite_none_left_eq_some] at h
    obtain ⟨hs5, h80, h⟩ := h
    split at h
    · simp only [Option.ite_none_left_eq_some, Option.some.injEq, Prod.mk.injEq] at h
      obtain ⟨hmax, rfl, rfl⟩ := h
      rw [encBase128_snoc s acc _ hd (by omega) (by omega), List.append_assoc, List.singleton_append,
        u8_ofNat_eq x _ (by omega)]
      exact ⟨rfl, by omega⟩
    · have hd0 : s = 0 → x.toNat % 128 ≠ 0 := fun h0 e =>
        h80 ⟨h0, UInt8.toNat_inj.mp (show x.toNat = 128 by omega)⟩
      have := ih (s + 1) _ (hd.snoc (by omega) hd0) (by omega) h
      rwa [contBytes_snoc s acc x hd (by omega), List.append_assoc] at this

theorem base128_canonical (b r : Bytes) (t : Nat) (h : base128 0 0 b = some (t, r)) :
    b = encBase128 t ++ r ∧ t < 2 ^ 31 :=
  base128_canonical_gen b r 0 0 t .zero (by decide) h

theorem length_base128Digits_le (f n : Nat) : (base128Digits f n).length ≤ f := by
  induction f generalizing n with
  | zero => exact Nat.le_refl _
  | succ f ih =>
    rw [base128Digits]
    split
    · simp
    · have := ih (n / 128); simp; omega

theorem encBase128_length (n : Nat) (h : n < 2 ^ 31) : 1 ≤ (encBase128 n).length ∧ (encBase128 n).length ≤ 5 := by
  obtain ⟨s, hs, hd⟩ := exists_digits128 4 (n / 128) (by omega)
  have e := encBase128_snoc s (n / 128) (n % 128) hd (by omega) (by omega)
  have := length_base128Digits_le s (n / 128)
  rw [show n / 128 * 128 + n % 128 = n by omega] at e
  rw [e, List.length_append, contBytes, List.length_map]
  simp; omega

/-! ## long-form length octets -/

theorem length_stripZeros_le (b : Bytes) : (stripZeros b).length ≤ b.length := by
  induction b with
  | nil => simp [stripZeros]
  | cons x xs ih => simp only [stripZeros]; split <;> simp <;> omega

theorem head?_stripZeros (b : Bytes) : (stripZeros b).head? ≠ some 0 := by
  induction b with
  | nil => simp [stripZeros]
  | cons x xs ih =>
    simp only [stripZeros]; split
    · exact ih
    · simpa using ‹¬x = 0›

theorem stripZeros_of_head (b : Bytes) (h : b.head? ≠ some 0) : stripZeros b = b := by
  cases b with
  | nil => rfl
  | cons x xs => exact if_neg (by simpa using h)

theorem beNat_stripZeros (b : Bytes) : beNat (stripZeros b) = beNat b := by
  induction b with
  | nil => rfl
  | cons x xs ih =>
    simp only [stripZeros]; split
    · rename_i h; rw [ih, beNat_cons, h]; simp
    · rfl

theorem stripZeros_replicate (j : Nat) (l : Bytes) : stripZeros (List.replicate j 0 ++ l) = stripZeros l := by
  induction j with
  | zero => rfl
  | succ j ih => rw [List.replicate_succ, List.cons_append, stripZeros, if_pos rfl, ih]

/-- a value that fits `w` bytes is padded with zeros on the left -/
theorem ofNatBE_add (w j n : Nat) (h : n < 256 ^ w) : ofNatBE (w + j) n = List.replicate j 0 ++ ofNatBE w n := by
  induction j with
  | zero => rfl
  | succ j ih =>
    have : n / 256 ^ (w + j) = 0 :=
      Nat.div_eq_of_lt (Nat.lt_of_lt_of_le h (Nat.pow_le_pow_right (by decide) (Nat.le_add_right w j)))
    rw [← Nat.add_assoc, ofNatBE, ih, this]; rfl

theorem natBytes_of_lt (w n : Nat) (hw : w ≤ 8) (h : n < 256 ^ w) : natBytes n = stripZeros (ofNatBE w n) := by
  rw [natBytes, show 8 = w + (8 - w) by omega, ofNatBE_add w _ n h, stripZeros_replicate]

/-- `natBytes` is the inverse of `beNat` on strings without a leading zero -/
theorem natBytes_beNat (bs : Bytes) (hl : bs.length ≤ 8) (h0 : bs.head? ≠ some 0) : natBytes (beNat bs) = bs := by
  rw [natBytes_of_lt bs.length _ hl (beNat_lt bs), ofNatBE_beNat _ _ rfl, stripZeros_of_head bs h0]

theorem beNat_natBytes (n : Nat) (h : n < 256 ^ 8) : beNat (natBytes n) = n := by
  rw [natBytes, beNat_stripZeros, beNat_ofNatBE _ _ h]

theorem natBytes_length_le (n : Nat) : (natBytes n).length ≤ 8 := by
  have := length_stripZeros_le (ofNatBE 8 n)
  rwa [length_ofNatBE] at this

/-- without a leading zero, a value below 256^w has at most `w` bytes -/
theorem length_le_of_beNat_lt (bs : Bytes) (w : Nat) (h0 : bs.head? ≠ some 0) (h : beNat bs < 256 ^ w) :
    bs.length ≤ w := by
  rcases bs with _ | ⟨x, t⟩
  · exact Nat.zero_le _
  have hx : ¬ x.toNat < 1 := fun hx =>
    h0 (by rw [show x = 0 from UInt8.toNat_inj.mp (show x.toNat = 0 by omega)]; rfl)
  rw [← beNat_cons_lt_iff x t 1, Nat.one_mul] at hx
  exact (Nat.pow_lt_pow_iff_right (by decide)).mp (Nat.lt_of_le_of_lt (Nat.le_of_not_lt hx) h)

theorem lengthBytes_cons (k acc : Nat) (x : UInt8) (rest : Bytes) :
    lengthBytes (k + 1) acc (x :: rest) =
      if acc ≥ 2 ^ 23 then none
      else if acc * 256 + x.toNat = 0 then none else lengthBytes k (acc * 256 + x.toNat) rest := rfl

/-- the loop over exactly the bytes `bs`, from any accumulator -/
theorem lengthBytes_append (bs rest : Bytes) (acc : Nat) (h0 : acc = 0 → bs.head? ≠ some 0)
    (hlt : acc * 256 ^ bs.length + beNat bs < 2 ^ 31) :
    lengthBytes bs.length acc (bs ++ rest) = some (acc * 256 ^ bs.length + beNat bs, rest) := by
  induction bs generalizing acc with
  | nil => simp [lengthBytes]
  | cons x t ih =>
    have hP := Nat.pow_pos (n := t.length) (show 0 < 256 by decide)
    have hx : acc = 0 → x.toNat ≠ 0 := fun ha e =>
      h0 ha (by rw [show x = 0 from UInt8.toNat_inj.mp e]; rfl)
    have e : (acc * 256 + x.toNat) * 256 ^ t.length + beNat t = acc * 256 ^ (t.length + 1) + beNat (x :: t) := by
      rw [beNat_cons, Nat.pow_succ, Nat.add_mul, Nat.mul_assoc, Nat.mul_comm 256, Nat.add_assoc]
    rw [List.length_cons, ← e] at hlt ⊢
    have := Nat.le_mul_of_pos_right (acc * 256 + x.toNat) hP
    rw [List.cons_append, lengthBytes_cons, if_neg (by omega), if_neg (by omega),
      ih _ (fun h => by omega) hlt]

theorem lengthBytes_natBytes (n : Nat) (rest : Bytes) (h : n < 2 ^ 31) :
    lengthBytes (natBytes n).length 0 (natBytes n ++ rest) = some (n, rest) := by
  have e := beNat_natBytes n (by omega)
  have := lengthBytes_append (natBytes n) rest 0 (fun _ => head?_stripZeros _) (by omega)
  rwa [Nat.zero_mul, Nat.zero_add, e] at this

/-- what the loop accepts: `k` bytes, no leading zero when starting from 0, value below 2³¹ -/
theorem lengthBytes_some (k acc : Nat) (b r : Bytes) (len : Nat) (h : lengthBytes k acc b = some (len, r)) :
    ∃ bs, b = bs ++ r ∧ bs.length = k ∧ len = acc * 256 ^ k + beNat bs ∧
      (k ≠ 0 → len < 2 ^ 31 ∧ (acc = 0 → bs.head? ≠ some 0)) := by
  induction k generalizing acc b with
  | zero =>
    simp only [lengthBytes, Option.some.injEq, Prod.mk.injEq] at h
    exact ⟨[], by simp [h.2], rfl, by simp [h.1], fun h => absurd rfl h⟩
  | succ k ih =>
    rcases b with _ | ⟨x, b⟩
    · exact absurd h (by simp [lengthBytes])
    simp only [lengthBytes_cons, Option.ite_none_left_eq_some] at h
    obtain ⟨h23, hne, h⟩ := h
    obtain ⟨bs, rfl, rfl, rfl, hk⟩ := ih _ _ h
    have hx := u8_lt x
    refine ⟨x :: bs, rfl, rfl, ?_, fun _ => ⟨?_, fun ha e => ?_⟩⟩
    · rw [beNat_cons, Nat.pow_succ, Nat.add_mul, Nat.mul_assoc, Nat.mul_comm 256, Nat.add_assoc]
    · rcases bs with _ | ⟨y, bs⟩
      · simp; omega
      · exact (hk (by simp)).1
    · simp only [List.head?_cons, Option.some.injEq] at e
      subst ha e
      exact hne rfl

theorem lengthBytes_canonical (n : Nat) (b r : Bytes) (len : Nat) (hn : n ≠ 0)
    (h : lengthBytes n 0 b = some (len, r)) :
    b = natBytes len ++ r ∧ (natBytes len).length = n ∧ len < 2 ^ 31 := by
  obtain ⟨bs, rfl, rfl, rfl, hk⟩ := lengthBytes_some n 0 b r len h
  obtain ⟨hlt, h0⟩ := hk hn
  rw [Nat.zero_mul, Nat.zero_add] at hlt ⊢
  have hl := length_le_of_beNat_lt bs 4 (h0 rfl) (by omega)
  rw [natBytes_beNat bs (by omega) (h0 rfl)]
  exact ⟨rfl, rfl, hlt⟩

/-! ### parseTL split into its tag part and its length part -/

def tagRes (b : UInt8) (rest : Bytes) : Option (Nat × Bytes) :=
  if b.toNat % 32 = 31 then
    match base128 0 0 rest with
    | some (t, r) => if t < 31 then none else some (t, r)
    | none => none
  else some (b.toNat % 32, rest)

def lenRes : Bytes → Option (Nat × Bytes)
  | [] => none
  | l :: rest =>
    if l.toNat < 128 then some (l.toNat, rest)
    else
      let n := l.toNat % 128
      if n = 0 then none
      else match lengthBytes n 0 rest with
        | none => none
        | some (len, rest) => if len < 128 then none else some (len, rest)

theorem parseTL_cons (b : UInt8) (rest : Bytes) :
    parseTL (b :: rest) =
      match tagRes b rest with
      | none => none
      | some (tag, r) =>
        match lenRes r with
        | none => none
        | some (len, r') => some (⟨b.toNat / 64, b.toNat / 32 % 2 == 1, tag, len⟩, r') := by
  simp only [parseTL, tagRes]
  generalize (if b.toNat % 32 = 31 then _ else _ : Option (Nat × Bytes)) = tr
  rcases tr with _ | ⟨tag, r⟩
  · rfl
  simp only []
  cases r with
  | nil => simp [lenRes]
  | cons l r =>
    simp only [lenRes]
    split
    · rfl
    · split
      · rfl
      · split <;> rename_i hlb <;> simp only [hlb]
        split <;> rfl

def encTag (cls : Nat) (compound : Bool) (tag : Nat) : Bytes :=
  let c := cls * 64 + (if compound then 32 else 0)
  if tag ≥ 31 then UInt8.ofNat (c + 31) :: encBase128 tag else [UInt8.ofNat (c + tag)]

theorem encTL_eq (cls : Nat) (compound : Bool) (tag len : Nat) :
    encTL cls compound tag len = encTag cls compound tag ++ encLen len := rfl

theorem lenRes_encLen (len : Nat) (rest : Bytes) (h : len < 2 ^ 31) :
    lenRes (encLen len ++ rest) = some (len, rest) := by
  unfold encLen
  split
  · simp only [List.cons_append, List.nil_append, lenRes, u8_toNat_ofNat]
    rw [if_pos (by omega), Nat.mod_eq_of_lt (by omega)]
  · rename_i h128
    have hle := natBytes_length_le len
    have hpos : (natBytes len).length ≠ 0 := fun e => by
      have := beNat_natBytes len (by omega)
      rw [List.eq_nil_of_length_eq_zero e] at this
      exact h128 (by rw [← this]; decide)
    simp only [List.cons_append, lenRes, u8_toNat_ofNat]
    rw [if_neg (by omega), show (128 + (natBytes len).length) % 256 % 128 = (natBytes len).length by omega,
      if_neg hpos, lengthBytes_natBytes len rest h]
    exact if_neg h128

theorem lenRes_canonical (b r : Bytes) (len : Nat) (h : lenRes b = some (len, r)) :
    b = encLen len ++ r ∧ len < 2 ^ 31 := by
  rcases b with _ | ⟨l, b⟩
  · exact absurd h (by simp [lenRes])
  have ql := u8_lt l
  simp only [lenRes] at h
  split at h
  · obtain ⟨rfl, rfl⟩ := Prod.mk.inj (Option.some.inj h)
    rw [encLen, if_pos ‹_›, u8_ofNat_eq l _ (by omega)]
    exact ⟨rfl, by omega⟩
  split at h
  · exact absurd h (by simp)
  split at h
  · exact absurd h (by simp)
  rename_i hn _ len' r' hlb
  split at h
  · exact absurd h (by simp)
  obtain ⟨rfl, rfl⟩ := Prod.mk.inj (Option.some.inj h)
  obtain ⟨hb, hlen, hlt⟩ := lengthBytes_canonical _ _ _ _ hn hlb
  rw [encLen, if_neg ‹_›, hlen, hb, u8_ofNat_eq l _ (by omega)]
  exact ⟨rfl, hlt⟩

/-! ## `parseTL` is strict DER and `encTL` is its inverse -/

/-- the three fields of an identifier octet -/
theorem idOctet_fields (cls t5 : Nat) (compound : Bool) (hc : cls < 4) (ht : t5 < 32) (x : UInt8)
    (hx : x = UInt8.ofNat (cls * 64 + (if compound then 32 else 0) + t5)) :
    x.toNat / 64 = cls ∧ (x.toNat / 32 % 2 == 1) = compound ∧ x.toNat % 32 = t5 := by
  rw [hx, u8_toNat_ofNat]
  cases compound <;> simp <;> omega

theorem idOctet_eq (b : UInt8) :
    UInt8.ofNat (b.toNat / 64 * 64 + (if (b.toNat / 32 % 2 == 1) then 32 else 0) + b.toNat % 32) = b := by
  have := u8_lt b
  apply u8_ofNat_eq
  by_cases h : b.toNat / 32 % 2 = 1 <;> simp [h] <;> omega

theorem tagRes_canonical (b : UInt8) (rest r : Bytes) (tag : Nat) (h : tagRes b rest = some (tag, r)) :
    b :: rest = encTag (b.toNat / 64) (b.toNat / 32 % 2 == 1) tag ++ r ∧ tag < 2 ^ 31 := by
  have hb := idOctet_eq b
  simp only [tagRes] at h
  split at h
  · rename_i h31
    split at h
    · rename_i t r' hp
      split at h
      · exact absurd h (by simp)
      obtain ⟨rfl, rfl⟩ := Prod.mk.inj (Option.some.inj h)
      obtain ⟨hrest, hlt⟩ := base128_canonical _ _ _ hp
      rw [h31] at hb
      simp only [encTag]
      rw [if_pos (by omega), hb, hrest]
      exact ⟨rfl, hlt⟩
    · exact absurd h (by simp)
  · obtain ⟨rfl, rfl⟩ := Prod.mk.inj (Option.some.inj h)
    simp only [encTag]
    rw [if_neg (by omega), hb]
    exact ⟨rfl, by omega⟩

theorem tagRes_encTag (cls tag : Nat) (compound : Bool) (rest : Bytes) (hc : cls < 4) (ht : tag < 2 ^ 31) :
    ∃ x xs, encTag cls compound tag = x :: xs ∧ tagRes x (xs ++ rest) = some (tag, rest) ∧
      x.toNat / 64 = cls ∧ (x.toNat / 32 % 2 == 1) = compound := by
  simp only [encTag]
  split
  · obtain ⟨h1, h2, h3⟩ := idOctet_fields cls 31 compound hc (by omega) _ rfl
    refine ⟨_, _, rfl, ?_, h1, h2⟩
    rw [tagRes, if_pos h3, base128_encBase128 _ _ ht]
    exact if_neg (by omega)
  · obtain ⟨h1, h2, h3⟩ := idOctet_fields cls tag compound hc (by omega) _ rfl
    refine ⟨_, _, rfl, ?_, h1, h2⟩
    rw [tagRes, if_neg (by omega), h3]
    rfl

theorem encTag_length (cls tag : Nat) (compound : Bool) (h : tag < 2 ^ 31) :
    1 ≤ (encTag cls compound tag).length ∧ (encTag cls compound tag).length ≤ 6 := by
  simp only [encTag]
  have := encBase128_length tag h
  split <;> simp <;> omega

theorem encLen_length (n : Nat) : 1 ≤ (encLen n).length ∧ (encLen n).length ≤ 9 := by
  simp only [encLen]
  have := natBytes_length_le n
  split <;> simp <;> omega

theorem encLen_length_small (n : Nat) (h : n < 2 ^ 31) : (encLen n).length ≤ 5 := by
  have := length_le_of_beNat_lt (natBytes n) 4 (head?_stripZeros _) (by rw [beNat_natBytes n (by omega)]; omega)
  simp only [encLen]
  split <;> simp <;> omega

theorem encTL_length (cls tag len : Nat) (compound : Bool) (ht : tag < 2 ^ 31) (hl : len < 2 ^ 31) :
    2 ≤ (encTL cls compound tag len).length ∧ (encTL cls compound tag len).length ≤ 11 := by
  have := encTag_length cls tag compound ht
  have := encLen_length len
  have := encLen_length_small len hl
  rw [encTL_eq, List.length_append]; omega

/-- for the small universal / context tags used with arbitrary (possibly huge) lengths -/
theorem encTL_length_le (cls tag len : Nat) (compound : Bool) (ht : tag < 2 ^ 31) :
    2 ≤ (encTL cls compound tag len).length ∧ (encTL cls compound tag len).length ≤ 15 := by
  have := encTag_length cls tag compound ht
  have := encLen_length len
  rw [encTL_eq, List.length_append]; omega

theorem parseTL_canonical' (b r : Bytes) (t : TL) (h : parseTL b = some (t, r)) :
    b = encTL t.cls t.compound t.tag t.len ++ r ∧ t.cls < 4 ∧ t.tag < 2 ^ 31 ∧ t.len < 2 ^ 31 := by
  rcases b with _ | ⟨x, rest⟩
  · exact absurd h (by simp [parseTL])
  have qx := u8_lt x
  rw [parseTL_cons] at h
  split at h
  · exact absurd h (by simp)
  rename_i tag r1 htr
  split at h
  · exact absurd h (by simp)
  rename_i len r2 hlr
  obtain ⟨rfl, rfl⟩ := Prod.mk.inj (Option.some.inj h)
  obtain ⟨h1, h2⟩ := tagRes_canonical _ _ _ _ htr
  obtain ⟨h3, h4⟩ := lenRes_canonical _ _ _ hlr
  exact ⟨by rw [encTL_eq, h1, h3, List.append_assoc], by simp only; omega, h2, h4⟩

theorem parseTL_encTL' (cls tag len : Nat) (compound : Bool) (rest : Bytes)
    (hc : cls < 4) (ht : tag < 2 ^ 31) (hl : len < 2 ^ 31) :
    parseTL (encTL cls compound tag len ++ rest) = some (⟨cls, compound, tag, len⟩, rest) := by
  obtain ⟨x, xs, hx, htr, h1, h2⟩ := tagRes_encTag cls tag compound (encLen len ++ rest) hc ht
  rw [encTL_eq, hx, List.append_assoc, List.cons_append, parseTL_cons, htr]
  simp only []
  rw [lenRes_encLen _ _ hl]
  simp only [h1, h2]

/-! ## one element: tag, length, contents -/

theorem exists_cons_of_parseTL {b : Bytes} {p : TL × Bytes} (h : parseTL b = some p) : ∃ x xs, b = x :: xs := by
  cases b with
  | nil => exact absurd h (by simp [parseTL])
  | cons x xs => exact ⟨x, xs, rfl⟩

theorem parseTL_length_lt (b r : Bytes) (t : TL) (h : parseTL b = some (t, r)) : r.length < b.length := by
  obtain ⟨hb, -, ht, hl⟩ := parseTL_canonical' b r t h
  have := encTL_length t.cls t.tag t.len t.compound ht hl
  rw [hb, List.length_append]; omega


def tlv (cls : Nat) (compound : Bool) (tag : Nat) (c : Bytes) : Bytes := encTL cls compound tag c.length ++ c

theorem parseTL_tlv (cls tag : Nat) (cp : Bool) (c rest : Bytes) (hc : cls < 4) (ht : tag < 2 ^ 31)
    (hl : c.length < 2 ^ 31) :
    parseTL (tlv cls cp tag c ++ rest) = some (⟨cls, cp, tag, c.length⟩, c ++ rest) := by
  rw [tlv, List.append_assoc]
  exact parseTL_encTL' cls tag c.length cp (c ++ rest) hc ht hl

/-- whatever the contents' length (for the small tags written in front of arbitrary contents) -/
theorem tlv_length_le (cls tag : Nat) (cp : Bool) (c : Bytes) (ht : tag < 2 ^ 31) :
    c.length + 2 ≤ (tlv cls cp tag c).length ∧ (tlv cls cp tag c).length ≤ c.length + 15 := by
  have := encTL_length_le cls tag c.length cp ht
  rw [tlv, List.length_append]; omega

/-- an element that is all there is what `tlv` writes -/
theorem tlv_of_parseTL (b r : Bytes) (t : TL) (h : parseTL b = some (t, r)) (hl : t.len ≤ r.length) :
    b = tlv t.cls t.compound t.tag (r.take t.len) ++ r.drop t.len := by
  rw [tlv, List.length_take, Nat.min_eq_left hl, List.append_assoc, List.take_append_drop]
  exact (parseTL_canonical' b r t h).1

end WebAuthn.Proofs.Asn1Lemmas
