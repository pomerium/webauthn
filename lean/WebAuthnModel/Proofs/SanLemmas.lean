import WebAuthnModel.Model.San
import WebAuthnModel.Proofs.Asn1Header
/-
  Helper lemmas for Theorems/C17San.lean: the SAN / RDNSequence walk of Model/San.lean on DER written by `encTL`, for a
  directory name with any number of single-attribute RDNs.  Core Lean only.
-/
namespace WebAuthn.Proofs.SanLemmas
open WebAuthn WebAuthn.Asn1 WebAuthn.San WebAuthn.Proofs.Asn1Lemmas

/-! ### `elems` -/

/-- the tag test of `elems` -/
def okTag (e : Option (Nat × Bool)) (t : TL) : Bool :=
  match e with
  | none => true
  | some (tag, compound) => t.cls = 0 && t.compound == compound && foldTag t.tag = tag

theorem elems_tlv (e : Option (Nat × Bool)) (n cls tag : Nat) (cp : Bool) (c rest : Bytes) (hc : cls < 4)
    (ht : tag < 2 ^ 31) (hl : c.length < 2 ^ 31) (hok : okTag e ⟨cls, cp, tag, c.length⟩ = true) :
    elems e (n + 1) (tlv cls cp tag c ++ rest) =
      (elems e n rest).map (fun es => (⟨cls, cp, tag, c.length⟩, c) :: es) := by
  have h1 := parseTL_tlv cls tag cp c rest hc ht hl
  obtain ⟨x, xs, hx⟩ := exists_cons_of_parseTL h1
  rw [hx] at h1 ⊢
  simp only [elems, h1]
  rcases e with _ | ⟨tg, cm⟩
  · simp; omega
  · simp only [okTag] at hok
    simp [hok]; omega

/-- a run of elements with the same header fields, with fuel for all its bytes -/
theorem elems_tlvs (e : Option (Nat × Bool)) (cls tag : Nat) (cp : Bool) (cs : List Bytes) (n : Nat) (hc : cls < 4)
    (ht : tag < 2 ^ 31) (hok : ∀ l, okTag e ⟨cls, cp, tag, l⟩ = true)
    (hn : (cs.map (tlv cls cp tag)).flatten.length ≤ n) (hn31 : n < 2 ^ 31) :
    elems e n (cs.map (tlv cls cp tag)).flatten = some (cs.map fun c => (⟨cls, cp, tag, c.length⟩, c)) := by
  induction cs generalizing n with
  | nil => cases n <;> rfl
  | cons c cs ih =>
    rw [List.map_cons, List.flatten_cons, List.length_append] at hn
    have := (tlv_length_le cls tag cp c ht).1
    obtain ⟨n, rfl⟩ : ∃ n', n = n' + 1 := ⟨n - 1, by omega⟩
    rw [List.map_cons, List.flatten_cons, elems_tlv e n cls tag cp c _ hc ht (by omega) (hok _),
      ih n (by omega) (by omega)]
    rfl

theorem okTag_seq (n : Nat) : okTag (some (16, true)) ⟨0, true, 16, n⟩ = true := by simp [okTag, foldTag]
theorem okTag_set (n : Nat) : okTag (some (17, true)) ⟨0, true, 17, n⟩ = true := by simp [okTag, foldTag]

/-! ### one AttributeTypeAndValue whose value is a primitive universal string type -/

theorem anyValue_utf8 (v : Bytes) (hv : utf8Valid v = true) : anyValue ⟨0, false, 12, v.length⟩ v = .str v := by
  simp [anyValue, hv]

/-- an attribute as written (OID contents, universal tag and contents of the value) beside what it decodes to -/
structure AttrEnc where
  oid : Bytes
  vt : Nat
  val : Bytes
  attr : Tpm.Attr

/-- the value decodes to a string -/
def AttrEnc.OK (p : AttrEnc) : Prop :=
  parseOID p.oid = some p.attr.oid ∧ p.attr.isString = true ∧
    anyValue ⟨0, false, p.vt, p.val.length⟩ p.val = .str p.attr.value ∧ p.vt < 2 ^ 31

theorem AttrEnc.utf8_ok (oid v : Bytes) (arcs : List Nat) (ho : parseOID oid = some arcs) (hv : utf8Valid v = true) :
    (⟨oid, 12, v, ⟨arcs, true, v⟩⟩ : AttrEnc).OK :=
  ⟨ho, rfl, anyValue_utf8 v hv, show 12 < 2 ^ 31 by decide⟩

/-- OBJECT IDENTIFIER oid, [UNIVERSAL vt] val -/
def AttrEnc.atv (p : AttrEnc) : Bytes := tlv 0 false 6 p.oid ++ tlv 0 false p.vt p.val

theorem parseAttr_ok (p : AttrEnc) (h : p.OK) (hol : p.oid.length < 2 ^ 31) (hvl : p.val.length < 2 ^ 31) :
    parseAttr p.atv = some (some p.attr) := by
  rw [AttrEnc.atv]
  obtain ⟨ho, hs, hv, hvt⟩ := h
  have h1 := parseTL_tlv 0 6 false p.oid (tlv 0 false p.vt p.val) (by omega) (by omega) hol
  have h2 := parseTL_tlv 0 p.vt false p.val [] (by omega) hvt hvl
  obtain ⟨x, xs, hx⟩ := exists_cons_of_parseTL h1
  obtain ⟨y, ys, hy⟩ := exists_cons_of_parseTL h2
  rw [List.append_nil] at h2 hy
  rw [hx] at h1 ⊢
  simp only [parseAttr, h1]
  simp only [List.take_left', List.drop_left', ho]
  rw [if_neg (by simp), if_neg (by simp)]
  rw [hy] at h2 ⊢
  simp only [h2]
  simp [hv, ← hs]

/-- SEQUENCE { OBJECT IDENTIFIER oid, [UNIVERSAL vt] val } -/
def AttrEnc.seq (p : AttrEnc) : Bytes := tlv 0 true 16 p.atv

/-- SEQUENCE { SET { a₁ }, …, SET { aₙ } } -/
def rdn (ps : List AttrEnc) : Bytes := tlv 0 true 16 ((ps.map AttrEnc.seq).map (tlv 0 true 17)).flatten

/-- SEQUENCE { [4] { rdn } } -/
def san (ps : List AttrEnc) : Bytes := tlv 0 true 16 (tlv 2 true 4 (rdn ps))

/-- the size of the attributes, with room for their headers -/
def size (ps : List AttrEnc) : Nat := (ps.map fun p => p.oid.length + p.val.length + 60).sum

theorem AttrEnc.seq_length (p : AttrEnc) (hvt : p.vt < 2 ^ 31) :
    p.atv.length + 2 ≤ p.seq.length ∧ p.seq.length ≤ p.oid.length + p.val.length + 45 ∧
      p.oid.length < p.atv.length ∧ p.val.length < p.atv.length := by
  have h1 := tlv_length_le 0 6 false p.oid (by omega)
  have h2 := tlv_length_le 0 p.vt false p.val hvt
  have h3 := tlv_length_le 0 16 true p.atv (by omega)
  rw [AttrEnc.seq, AttrEnc.atv, List.length_append] at *
  omega

theorem sets_length (ps : List AttrEnc) (hvt : ∀ p ∈ ps, p.vt < 2 ^ 31) :
    ((ps.map AttrEnc.seq).map (tlv 0 true 17)).flatten.length ≤ size ps := by
  induction ps with
  | nil => exact Nat.le_refl _
  | cons p ps ih =>
    have h1 := p.seq_length (hvt p (by simp))
    have h2 := tlv_length_le 0 17 true p.seq (by omega)
    have := ih (fun q hq => hvt q (by simp [hq]))
    simp only [size, List.map_cons, List.flatten_cons, List.length_append, List.sum_cons] at this ⊢
    omega

theorem parseSets_attrs (ps : List AttrEnc) (h : ∀ p ∈ ps, p.OK) (hlen : size ps < 2 ^ 31) :
    parseSets (ps.map fun p => (⟨0, true, 17, p.seq.length⟩, p.seq)) = .ok (ps.map (·.attr)) := by
  induction ps with
  | nil => rfl
  | cons p ps ih =>
    obtain ⟨ho, hs, hv, hvt⟩ := h p (by simp)
    rw [size, List.map_cons, List.sum_cons, ← size] at hlen
    have hl := p.seq_length hvt
    have he := elems_tlvs (some (16, true)) 0 16 true [p.atv] p.seq.length (by omega) (by omega) okTag_seq
      (by simp [AttrEnc.seq]) (by omega)
    simp only [List.map_cons, List.map_nil, List.flatten_cons, List.flatten_nil, List.append_nil] at he
    have ha := parseAttr_ok p (h p (by simp)) (by omega) (by omega)
    simp only [List.map_cons, parseSets]
    rw [show p.seq = tlv 0 true 16 p.atv from rfl] at he ⊢
    simp [he, parseAttrs, ha, ih (fun q hq => h q (by simp [hq])) (by omega)]

theorem parseRDN_rdn (ps : List AttrEnc) (h : ∀ p ∈ ps, p.OK) (hlen : size ps < 2 ^ 31) :
    parseRDN (rdn ps) = .ok (ps.map (·.attr)) := by
  have hl := sets_length ps (fun p hp => (h p hp).2.2.2)
  have hp := parseTL_tlv 0 16 true ((ps.map AttrEnc.seq).map (tlv 0 true 17)).flatten [] (by omega) (by omega) (by omega)
  obtain ⟨x, xs, hx⟩ := exists_cons_of_parseTL hp
  simp only [List.append_nil] at hp hx
  have he := elems_tlvs (some (17, true)) 0 17 true (ps.map AttrEnc.seq) _ (by omega) (by omega) okTag_set
    (Nat.le_refl _) (by omega)
  rw [rdn, hx]
  rw [hx] at hp
  simp only [parseRDN, hp]
  simp only [List.take_length, he]
  rw [if_neg (by simp), if_neg (Nat.lt_irrefl _), List.map_map]
  exact parseSets_attrs ps h hlen

theorem name_length (ps : List AttrEnc) (hvt : ∀ p ∈ ps, p.vt < 2 ^ 31) (hlen : size ps + 64 < 2 ^ 31) :
    (rdn ps).length + 2 ≤ (tlv 2 true 4 (rdn ps)).length ∧ (tlv 2 true 4 (rdn ps)).length + 32 < 2 ^ 31 := by
  have hl := sets_length ps hvt
  have lr := tlv_length_le 0 16 true ((ps.map AttrEnc.seq).map (tlv 0 true 17)).flatten (by omega)
  have lg := tlv_length_le 2 4 true (rdn ps) (by omega)
  rw [← rdn] at lr
  omega

/-- the whole extension value: one directory name -/
theorem parseExt_san (ps : List AttrEnc) (h : ∀ p ∈ ps, p.OK) (hlen : size ps + 64 < 2 ^ 31) :
    parseExt (san ps) = (.names [⟨2, 4, some (ps.map (·.attr))⟩], true) := by
  have hl := name_length ps (fun p hp => (h p hp).2.2.2) hlen
  have hp := parseTL_tlv 0 16 true (tlv 2 true 4 (rdn ps)) [] (by omega) (by omega) (by omega)
  obtain ⟨x, xs, hx⟩ := exists_cons_of_parseTL hp
  simp only [List.append_nil] at hp hx
  have he := elems_tlvs none 2 4 true [rdn ps] (tlv 2 true 4 (rdn ps)).length (by omega) (by omega) (fun _ => rfl)
    (by simp) (by omega)
  simp only [List.map_cons, List.map_nil, List.flatten_cons, List.flatten_nil, List.append_nil] at he
  rw [san, hx]
  rw [hx] at hp
  simp only [parseExt, hp]
  simp only [List.take_length, List.drop_length, he]
  simp [parseRDN_rdn ps h (by omega)]

/-- bytes after the outer SEQUENCE make the extension unusable, whatever the SEQUENCE holds -/
theorem parseExt_trailing (c : Bytes) (x : UInt8) (rest : Bytes) (hl : c.length < 2 ^ 31) :
    (parseExt (tlv 0 true 16 c ++ x :: rest)).1 = .bad := by
  have hp := parseTL_tlv 0 16 true c (x :: rest) (by omega) (by omega) hl
  obtain ⟨y, ys, hy⟩ := exists_cons_of_parseTL hp
  rw [hy]
  rw [hy] at hp
  simp only [parseExt, hp]
  simp

/-! ### BMPString values: `utf16ToUtf8` is defined by well-founded recursion, so the kernel cannot evaluate it; on code units below
    the surrogate range it is the concatenation of the runes' encodings, which the kernel can -/

theorem utf16ToUtf8_bmp (us : List Nat) (h : ∀ u ∈ us, u < 0xD800) :
    utf16ToUtf8 us = (us.map Json.encodeRune).flatten := by
  induction us with
  | nil => simp [utf16ToUtf8]
  | cons u tl ih =>
    have hu : u < 0xD800 := h u (by simp)
    have htl := ih (fun v hv => h v (by simp [hv]))
    cases tl with
    | nil => simp [utf16ToUtf8, isSurrogate]; omega
    | cons v rest =>
      rw [utf16ToUtf8, if_neg (by omega), htl]
      have : isSurrogate u = false := by simp [isSurrogate]; omega
      simp [this]

end WebAuthn.Proofs.SanLemmas
