import WebAuthnModel.Spec.Ceremony
import WebAuthnModel.Proofs.Origin
/-
  Running the oracle helpers of `Model/Attestation.lean` and the guard shapes the verifiers are written in:
  what `Prog.run env` makes of each, as a statement about `env.answer`.
-/
namespace WebAuthn
open Prog

namespace Prog

theorem run_ite {α} (env : Env) (c : Prop) [Decidable c] (p q : Prog α) :
    run env (if c then p else q) = if c then run env p else run env q := by
  split <;> rfl

/-- a rejecting guard in front of an `Option`-valued program -/
theorem run_guard_eq_some {α} (env : Env) (c : Prop) [Decidable c] (p : Prog (Option α)) (r : α) :
    run env (if c then pure none else p) = some r ↔ ¬c ∧ run env p = some r := by
  split <;> simp [*]

/-- the same for a `Bool`-valued program -/
theorem run_guard_eq_true (env : Env) (c : Prop) [Decidable c] (p : Prog Bool) :
    run env (if c then pure false else p) = true ↔ ¬c ∧ run env p = true := by
  split <;> simp [*]

end Prog

theorem run_originMatches (env : Env) (co ro : Bytes) :
    run env (originMatches co ro) = true ↔ Spec.OriginOK env co ro := by
  rw [originMatches_run]
  simp only [Spec.OriginOK, labelWalk_iff]

/-- the verifiers' Boolean tests are written `if !b then reject`; past one, `b` holds -/
theorem of_not_bnot {b : Bool} (h : ¬(!b) = true) : b = true := by
  simpa using h

namespace Att

theorem run_askCert (env : Env) (der : Bytes) (c : CertView) :
    run env (askCert der) = some c ↔ env.answer (.x509Parse der) = .cert c := by
  simp only [askCert, run_bind, run_query]
  cases env.answer (.x509Parse der) <;> simp

theorem run_askCert_none (env : Env) (der : Bytes) :
    run env (askCert der) = none ↔ ∀ c, env.answer (.x509Parse der) ≠ .cert c := by
  simp only [askCert, run_bind, run_query]
  cases env.answer (.x509Parse der) <;> simp

theorem run_askBool (env : Env) (q : Ask) : run env (askBool q) = true ↔ env.answer q = .bool true := by
  simp only [askBool, run_bind, run_query]
  cases env.answer q <;> simp

theorem run_askBytes (env : Env) (q : Ask) (b : Bytes) :
    run env (askBytes q) = some b ↔ env.answer q = .bytes b := by
  simp only [askBytes, run_bind, run_query]
  cases env.answer q <;> simp

theorem run_sha256 (env : Env) (b : Bytes) : run env (sha256 b) = Spec.sha256 env b := by
  simp only [sha256, Spec.sha256, run_bind, run_query]
  cases env.answer (.sha256 b) <;> rfl

theorem run_hashIsEqual (env : Env) (id : Nat) (data expected : Bytes) :
    run env (hashIsEqual id data expected) = true ↔ env.answer (.hash id data) = .bytes expected := by
  simp only [hashIsEqual, run_bind, run_query]
  cases env.answer (.hash id data) <;> simp

end Att
end WebAuthn

namespace WebAuthn.Prog

/-- a guard on the answer of a `Bool`-valued step: `if !(← q) then pure none else p` -/
theorem run_guardM_eq_some {α} (env : Env) (q : Prog Bool) (p : Prog (Option α)) (r : α) :
    run env (q >>= fun b => if (!b) = true then pure none else p) = some r ↔ run env q = true ∧ run env p = some r := by
  rw [run_bind]
  cases run env q <;> simp

/-! #### all-or-nothing traversals

  `Att.parseCerts`, both `parseChain`s and `Fido.parseRootCertificates` walk a list, ask about each entry and give up at the first
  failure.  Run in an environment, each is `List.mapM` of its step into `Option`; what the callers need of such a list is here. -/

theorem run_traverse {α β} (env : Env) (F : List α → Prog (Option (List β))) (step : α → Option β)
    (nil : run env (F []) = some [])
    (cons : ∀ a as, run env (F (a :: as)) = (step a).bind fun b => (run env (F as)).map (b :: ·)) (xs : List α) :
    run env (F xs) = xs.mapM step := by
  induction xs with
  | nil => exact nil
  | cons a as ih => rw [cons, ih, List.mapM_cons]; cases step a <;> cases as.mapM step <;> rfl

theorem mapM_cons_eq_some {α β} (f : α → Option β) (a : α) (as : List α) (ys : List β) :
    (a :: as).mapM f = some ys ↔ ∃ b bs, f a = some b ∧ as.mapM f = some bs ∧ ys = b :: bs := by
  rw [List.mapM_cons]
  cases f a <;> cases as.mapM f <;> simp [eq_comm]

theorem mapM_some_length {α β} {f : α → Option β} {xs : List α} {ys : List β} (h : xs.mapM f = some ys) :
    ys.length = xs.length := by
  induction xs generalizing ys with
  | nil => cases h; rfl
  | cons a as ih =>
    obtain ⟨b, bs, -, hbs, rfl⟩ := (mapM_cons_eq_some ..).1 h
    rw [List.length_cons, List.length_cons, ih hbs]

theorem mapM_isSome_iff {α β} {f : α → Option β} {xs : List α} :
    (∃ ys, xs.mapM f = some ys) ↔ ∀ x ∈ xs, ∃ y, f x = some y := by
  induction xs with
  | nil => simp
  | cons a as ih =>
    simp only [mapM_cons_eq_some, List.forall_mem_cons, ← ih]
    constructor
    · rintro ⟨_, b, bs, hb, hbs, rfl⟩; exact ⟨⟨b, hb⟩, bs, hbs⟩
    · rintro ⟨⟨b, hb⟩, bs, hbs⟩; exact ⟨_, b, bs, hb, hbs, rfl⟩

end WebAuthn.Prog
