import WebAuthnModel.Basic.Base64Url
/-
  Proofs about the model of Go's `base64.RawURLEncoding`.
-/
namespace WebAuthn.B64

/-- the alphabet is a 64-row table -/
theorem valOf_charOf (n : Nat) (h : n < 64) : valOf (charOf n) = some n := by
  revert n; decide +kernel

theorem valOf_pad : valOf 61 = none := by decide
theorem valOf_plus : valOf 43 = none := by decide
theorem valOf_slash : valOf 47 = none := by decide
theorem valOf_space : valOf 32 = none := by decide

theorem charOf_ne_pad (n : Nat) (h : n < 64) : charOf n ≠ 61 := by
  intro hc
  have hv := valOf_charOf n h
  rw [hc, valOf_pad] at hv
  cases hv

/-- a byte with a sextet value lies between '-' and 'z' -/
theorem valOf_some (c : UInt8) (n : Nat) (h : valOf c = some n) : n < 64 ∧ 45 ≤ c.toNat ∧ c.toNat ≤ 122 := by
  unfold valOf at h
  simp only at h
  repeat' split at h
  all_goals cases h
  all_goals omega

theorem valOf_lt (c : UInt8) (n : Nat) (h : valOf c = some n) : n < 64 := (valOf_some c n h).1

/-- the four sextets of a three-byte group are below 64 and regroup to the three bytes; a final group of one or two bytes
    is the case `b = c = 0`, `c = 0` -/
theorem group_spec (a b c : Nat) (ha : a < 256) (hb : b < 256) (hc : c < 256) :
    a / 4 < 64 ∧ a % 4 * 16 + b / 16 < 64 ∧ b % 16 * 4 + c / 64 < 64 ∧ c % 64 < 64 ∧
    a / 4 * 4 + (a % 4 * 16 + b / 16) / 16 = a ∧ (a % 4 * 16 + b / 16) % 16 * 16 + (b % 16 * 4 + c / 64) / 4 = b ∧
    (b % 16 * 4 + c / 64) % 4 * 64 + c % 64 = c := by omega

/-- every output character is in the URL-safe alphabet (so never '=', '+', '/') -/
theorem encode_alphabet (b : Bytes) : ∀ c ∈ encode b, ∃ n, n < 64 ∧ c = charOf n := by
  induction b using encode.induct with
  | case1 => intro c hc; cases hc
  | case2 a =>
    obtain ⟨h1, h2, -⟩ := group_spec a.toNat 0 0 a.toNat_lt (by decide) (by decide)
    simp only [encode, List.forall_mem_cons]
    exact ⟨⟨_, h1, rfl⟩, ⟨_, h2, rfl⟩, nofun⟩
  | case3 a b =>
    obtain ⟨h1, h2, h3, -⟩ := group_spec a.toNat b.toNat 0 a.toNat_lt b.toNat_lt (by decide)
    simp only [encode, List.forall_mem_cons]
    exact ⟨⟨_, h1, rfl⟩, ⟨_, h2, rfl⟩, ⟨_, h3, rfl⟩, nofun⟩
  | case4 a b c rest ih =>
    obtain ⟨h1, h2, h3, h4, -⟩ := group_spec a.toNat b.toNat c.toNat a.toNat_lt b.toNat_lt c.toNat_lt
    simp only [encode, List.forall_mem_cons]
    exact ⟨⟨_, h1, rfl⟩, ⟨_, h2, rfl⟩, ⟨_, h3, rfl⟩, ⟨_, h4, rfl⟩, ih⟩

theorem mem_encode_valOf (b : Bytes) (c : UInt8) (hc : c ∈ encode b) : ∃ n, valOf c = some n := by
  obtain ⟨n, hn, rfl⟩ := encode_alphabet b c hc
  exact ⟨n, valOf_charOf n hn⟩

theorem not_mem_encode (b : Bytes) {c : UInt8} (h : valOf c = none) : c ∉ encode b := by
  intro hc
  obtain ⟨n, hn⟩ := mem_encode_valOf b c hc
  rw [h] at hn; cases hn

theorem encode_length (b : Bytes) : (encode b).length = (b.length * 4 + 2) / 3 := by
  induction b using encode.induct with
  | case1 => rfl
  | case2 a => simp [encode]
  | case3 a b => simp [encode]
  | case4 a b c rest ih =>
    simp only [encode, List.length_cons, ih]
    omega

/-- round trip for all byte strings of all lengths -/
theorem decodeClean_encode (b : Bytes) : decodeClean (encode b) = some b := by
  induction b using encode.induct with
  | case1 => rfl
  | case2 a =>
    obtain ⟨h1, h2, -, -, e1, -⟩ := group_spec a.toNat 0 0 a.toNat_lt (by decide) (by decide)
    simp only [Nat.zero_div, Nat.add_zero] at h2 e1
    simp only [encode, decodeClean, valOf_charOf _ h1, valOf_charOf _ h2, Option.bind_eq_bind, Option.bind_some,
      Option.pure_def, e1, UInt8.ofNat_toNat]
  | case3 a b =>
    obtain ⟨h1, h2, h3, -, e1, e2, -⟩ := group_spec a.toNat b.toNat 0 a.toNat_lt b.toNat_lt (by decide)
    simp only [Nat.zero_div, Nat.add_zero] at h3 e2
    simp only [encode, decodeClean, valOf_charOf _ h1, valOf_charOf _ h2, valOf_charOf _ h3, Option.bind_eq_bind,
      Option.bind_some, Option.pure_def, e1, e2, UInt8.ofNat_toNat]
  | case4 a b c rest ih =>
    obtain ⟨h1, h2, h3, h4, e1, e2, e3⟩ := group_spec a.toNat b.toNat c.toNat a.toNat_lt b.toNat_lt c.toNat_lt
    simp only [encode, decodeClean, valOf_charOf _ h1, valOf_charOf _ h2, valOf_charOf _ h3, valOf_charOf _ h4, ih,
      Option.bind_eq_bind, Option.bind_some, Option.pure_def, e1, e2, e3, UInt8.ofNat_toNat]

theorem filter_encode (b : Bytes) : (encode b).filter (fun c => !isNewline c) = encode b := by
  rw [List.filter_eq_self]
  intro c hc
  obtain ⟨n, hn⟩ := mem_encode_valOf b c hc
  have := (valOf_some c n hn).2.1
  have h13 : c ≠ 13 := fun e => by rw [e] at this; exact absurd this (by decide)
  have h10 : c ≠ 10 := fun e => by rw [e] at this; exact absurd this (by decide)
  simp [isNewline, h13, h10]

theorem decode_encode (b : Bytes) : decode (encode b) = some b := by
  unfold decode
  rw [filter_encode, decodeClean_encode]

theorem fromBase64URL_encode (b : Bytes) : fromBase64URL (encode b) = some b := by
  unfold fromBase64URL
  split
  · rename_i h
    have := decodeClean_encode b
    rw [h] at this
    simpa [decodeClean] using this
  · exact decode_encode b

theorem encode_injective (a b : Bytes) (h : encode a = encode b) : a = b := by
  have h1 := decodeClean_encode a
  rw [h, decodeClean_encode] at h1
  exact (Option.some.inj h1).symm

/-- what a successful decode says of its input: alphabet characters only, not 1 mod 4 of them, ⌊3n/4⌋ bytes out -/
theorem decodeClean_some (s out : Bytes) (h : decodeClean s = some out) :
    (∀ c ∈ s, ∃ n, valOf c = some n) ∧ s.length % 4 ≠ 1 ∧ out.length = s.length * 3 / 4 := by
  induction s using decodeClean.induct generalizing out with
  | case1 => cases h; simp
  | case2 a => cases h
  | case3 a b =>
    simp only [decodeClean, Option.bind_eq_bind, Option.pure_def, Option.bind_eq_some_iff] at h
    obtain ⟨x, hx, y, hy, h⟩ := h
    cases h; simp [hx, hy]
  | case4 a b d =>
    simp only [decodeClean, Option.bind_eq_bind, Option.pure_def, Option.bind_eq_some_iff] at h
    obtain ⟨x, hx, y, hy, z, hz, h⟩ := h
    cases h; simp [hx, hy, hz]
  | case5 a b d e rest ih =>
    simp only [decodeClean, Option.bind_eq_bind, Option.pure_def, Option.bind_eq_some_iff] at h
    obtain ⟨x, hx, y, hy, z, hz, w, hw, r, hr, h⟩ := h
    cases h
    obtain ⟨i1, i2, i3⟩ := ih r hr
    refine ⟨by simpa [hx, hy, hz, hw] using i1, ?_, ?_⟩ <;> simp only [List.length_cons] <;> omega

theorem decodeClean_rejects_bad_char (s : Bytes) (c : UInt8) (hc : c ∈ s) (hv : valOf c = none) :
    decodeClean s = none := by
  cases h : decodeClean s with
  | none => rfl
  | some out =>
    obtain ⟨n, hn⟩ := (decodeClean_some s out h).1 c hc
    rw [hv] at hn; cases hn

/-- any byte outside the alphabet other than CR/LF (e.g. '=', '+', '/', space) makes decoding fail -/
theorem decode_rejects_bad_char (s : Bytes) (c : UInt8) (hc : c ∈ s) (hv : valOf c = none)
    (hn : isNewline c = false) : decode s = none := by
  unfold decode
  apply decodeClean_rejects_bad_char _ c _ hv
  simp [List.mem_filter, hc, hn]

/-- impossible length: 1 mod 4 significant characters -/
theorem decode_rejects_length (s : Bytes) (h : (s.filter (fun c => !isNewline c)).length % 4 = 1) :
    decode s = none := by
  unfold decode
  cases hd : decodeClean (s.filter (fun c => !isNewline c)) with
  | none => rfl
  | some out => exact absurd h (decodeClean_some _ out hd).2.1

/-- a successful decode yields exactly ⌊3n/4⌋ bytes from n significant characters -/
theorem decodeClean_length (s out : Bytes) (h : decodeClean s = some out) :
    out.length = s.length * 3 / 4 :=
  (decodeClean_some s out h).2.2

end WebAuthn.B64
