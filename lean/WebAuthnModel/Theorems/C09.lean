import WebAuthnModel.Generated.Effects
import WebAuthnModel.Proofs.CborFrame
import WebAuthnModel.Theorems.C02
import WebAuthnModel.Theorems.C04
/-
  C09 — no exported entry point panics, hangs or blows up on any input.
  PARTIAL by nature: Go panics inside dependencies, wall-clock time and memory are not exhibited by the model.
  What is proved: (a) the model is total — every definition under Basic/, Cbor/, Model/ is accepted by Lean as structurally or
  fuel recursive (the audit step forbids `partial`), so every input has an answer; (b) fuel is never the reason for rejecting CBOR
  (`item_fuel_sufficient`) and the fuel, hence the recursion depth, is linear in the input length; (c) the absent-optional cases the
  property names are explicit rejects (or explicit non-demands), not crashes; (d) the regenerated panic-site facts about ALL non-test code
  are the reviewed ones: no explicit panic can run after package initialisation, there is no single-value type assertion, every
  dereference through an optional pointer member is nil-checked, and the constant-index sites are the reviewed, length-guarded ones.
-/
namespace WebAuthn.C09
open WebAuthn

/-! ### regenerated panic-site facts -/

/-- explicit `panic` calls: none in a function that can run once package initialisation is over.  The translator lists every function
    with an explicit `panic` (`panicCalls`: today package initialisation — the embedded Apple root PEM — and the random-AAGUID helper, which
    only tests call) and, separately, those of them that are not confined to initialisation: not an `init` function, and not an unexported
    plain function whose every mention in non-test code is a direct call in a package-level initialiser or in another such function.
    What runs only during initialisation runs before, and independently of, any data handed to an entry point. -/
theorem panic_calls_reviewed : Generated.Effects.panicCallsAfterInit = [] := by decide

/-- no single-value type assertion `x.(T)` anywhere (every assertion on statement members uses the comma-ok form) -/
theorem no_single_value_assertions : Generated.Effects.singleValueAssertions = [] := by decide

/-- every dereference through an optional pointer member (AttestedCredentialData, AuthenticatorSelection, Name.Digest, AttestedCertifyInfo) is
    dominated by a nil check or obtained through the attested-data helper; the one unguarded site is a method call whose receiver may be nil
    by design (`(*AttestedCredentialData).Marshal` checks its receiver).  (Stated without the names of variables: function, member path.) -/
theorem optional_derefs_reviewed : Generated.Effects.unguardedOptionalDerefs =
    ["webauthn.AuthenticatorData.Marshal: .AttestedCredentialData.Marshal"] := by decide +kernel

/-- every constant-index site on a slice is protected: a length check on the same expression returns earlier in the same function, the index
    stands inside the `if` that made the check, or the slice was obtained from a call whose result is non-empty by that function's own check -/
theorem const_index_reviewed : Generated.Effects.unguardedConstIndexSites = [] := by decide

/-! ### the model always answers -/

/-- fuel is never the reason for rejecting a CBOR item: more fuel changes nothing -/
theorem cbor_fuel_sufficient (f d : Nat) (b : Bytes) (hf : Cbor.fuelFor b ≤ f) : Cbor.item f d b = Cbor.item (Cbor.fuelFor b) d b :=
  Cbor.item_fuel_sufficient f d b hf

/-- recursion depth of the CBOR decoder is linear in the input length -/
theorem cbor_fuel_linear (b : Bytes) : Cbor.fuelFor b = 2 * b.length + 2 := rfl

/-- nesting beyond the decoder's limit is rejected, not followed: an array nested deeper than 32 levels is rejected at any depth budget -/
theorem cbor_depth_limited (f : Nat) (rest : Bytes) (h : Cbor.Head) (hh : Cbor.head (0x81 :: rest) = some (h, rest)) :
    Cbor.item (f + 1) 32 (0x81 :: rest) = none :=
  (Cbor.item_container (Cbor.head_imm (by decide)) (.inl rfl)).trans (if_pos (by decide))

/-- authenticator data without attested credential data is an explicit reject of registration (never a crash) -/
theorem reg_no_attested_data_is_reject (env : Prog.Env) (rp : RP) (o : CreationOptions) (c : Attestation) (opts : List VerifyOption)
    (get : Bytes → GetOutcome) (set : Credential → SetOutcome) (ao : Att.AttObj) (rest : Bytes) (ad : AuthData) (adRest : Bytes)
    (h1 : unmarshalAttestationObject c.attestationObject = .ok ao rest) (h2 : unmarshalAuthData ao.authData = some (ad, adRest))
    (h3 : ad.acd = none) : ∀ cr, (Prog.run env (verifyRegistration rp o c opts get set)).result ≠ .ok cr :=
  C02.reg_no_attested_data_rejects env rp o c opts get set ao rest ad adRest h1 h2 h3
/-- an absent authenticatorSelection is handled (no user verification demanded), never dereferenced -/
theorem reg_absent_authSel_is_handled (env : Prog.Env) (rp : RP) (o : CreationOptions) (c : Attestation) (opts : List VerifyOption)
    (get : Bytes → GetOutcome) (set : Credential → SetOutcome) (uv : Bytes) (huv : uv ≠ Spec.str "required") :
    Prog.run env (verifyRegistration rp { o with authSelUV := none } c opts get set) =
    Prog.run env (verifyRegistration rp { o with authSelUV := some uv } c opts get set) :=
  C02.reg_absent_authSel env rp o c opts get set uv huv

/-- a TPM certInfo whose certified name is empty or a handle (no digest) is an explicit reject -/
theorem tpm_name_without_digest_rejects (env : Prog.Env) (o : Att.AttObj) (h : Bytes) (ciRaw : Bytes) (ci : CertInfoView)
    (h1 : Att.stmtBytes o.stmt "certInfo" = some ciRaw) (h2 : Tpm2.certInfo (Prog.run env Att.askHashes) ciRaw = some ci)
    (h3 : ∀ a v, ci.name ≠ .digest a v) : Prog.run env (Att.verifyTPM o h) = none := by
  cases hr : Prog.run env (Att.verifyTPM o h) with
  | none => rfl
  | some res =>
    obtain ⟨_, _, _, hashes, ciRaw', ci', _, _, _, _, _, _, _, nameAlg, nameVal, _, _, _, rfl, hb1, hb2, hrest⟩ := ((C04.tpm_iff env o h res).1 hr).body
    rw [h1] at hb1
    injection hb1 with e
    subst e
    rw [h2] at hb2
    injection hb2 with e
    subst e
    obtain ⟨_, _, _, _, _, _, _, _, _, _, _, _, hname, _⟩ := hrest
    exact absurd hname (h3 nameAlg nameVal)

/-- an empty certificate list is an explicit reject for packed (x5c present but empty), fido-u2f, android-key, apple and tpm -/
theorem empty_x5c_rejects (env : Prog.Env) (o : Att.AttObj) (h : Bytes) (hx : Cbor.stmtGet o.stmt "x5c" = some (.array [])) :
    Prog.run env (Att.verifyPacked o h) = none ∧ Prog.run env (Att.verifyU2F o h) = none ∧
    Prog.run env (Att.verifyAndroidKey o h) = none ∧ Prog.run env (Att.verifyApple o h) = none ∧ Prog.run env (Att.verifyTPM o h) = none := by
  have hne : Cbor.stmtGet o.stmt "x5c" ≠ none := by rw [hx]; exact fun e => nomatch e
  have key : ∀ certs, Spec.Att.X5c env o.stmt certs → certs = [] := by
    intro certs ⟨xs, h1, h2⟩
    rw [hx] at h1
    injection h1 with e
    injection e with e
    subst e
    cases certs with
    | nil => rfl
    | cons c cs => exact absurd h2 (by simp [Spec.Att.X5cList])
  refine ⟨?_, ?_, ?_, ?_, ?_⟩
  · cases hr : Prog.run env (Att.verifyPacked o h) with
    | none => rfl
    | some res =>
      rcases (C04.packed_iff env o h res).1 hr with hp | hp
      · obtain ⟨der, c, rest, _, _, hx5, _⟩ := hp.body
        exact absurd (key _ hx5) (by simp)
      · exact absurd hp.noX5c hne
  · cases hr : Prog.run env (Att.verifyU2F o h) with
    | none => rfl
    | some res =>
      obtain ⟨der, c, _, _, _, _, _, _, _, _, hx5, _⟩ := ((C04.u2f_iff env o h res).1 hr).body
      exact absurd (key _ hx5) (by simp)
  · cases hr : Prog.run env (Att.verifyAndroidKey o h) with
    | none => rfl
    | some res =>
      obtain ⟨der, c, rest, _, _, _, _, _, hx5, _⟩ := ((C04.androidKey_iff env o h res).1 hr).body
      exact absurd (key _ hx5) (by simp)
  · cases hr : Prog.run env (Att.verifyApple o h) with
    | none => rfl
    | some res =>
      obtain ⟨der, c, rest, _, _, _, _, hx5, _⟩ := ((C04.apple_iff env o h res).1 hr).body
      exact absurd (key _ hx5) (by simp)
  · cases hr : Prog.run env (Att.verifyTPM o h) with
    | none => rfl
    | some res =>
      obtain ⟨der, c, rest, _, _, _, _, _, _, _, _, _, _, _, _, _, _, hx5, _⟩ := ((C04.tpm_iff env o h res).1 hr).body
      exact absurd (key _ hx5) (by simp)

end WebAuthn.C09
