import WebAuthnModel.Spec.History
import WebAuthnModel.Theorems.C01
import WebAuthnModel.Theorems.C02
import WebAuthnModel.Theorems.C06
/-
  C07 — histories of ceremonies against `InMemoryCredentialStorage` refine the reference state machine of
  `Spec.History` (state: id ↦ (owner, key)), for every environment and every finite history; and the
  reference machine has the binding properties of the statement (stutter on failure, no re-binding,
  stable owners, authentication against the current binding only).
-/
namespace WebAuthn.C07
open WebAuthn

/-! ### storage lemmas: the association list behaves as the map id ↦ (owner, key) -/

theorem abs_empty : Spec.abs [] = Spec.State.empty := rfl

theorem find_insert_self (st : Store) (c : Credential) :
    (st.insert c).find? (fun x => x.id == c.id) = some c := by
  simp [Store.insert]

theorem find_insert_other (st : Store) (c : Credential) (id : Bytes) (h : id ≠ c.id) :
    (st.insert c).find? (fun x => x.id == id) = st.find? (fun x => x.id == id) := by
  have hc : (c.id == id) = false := by
    simp only [beq_eq_false_iff_ne, ne_eq]; exact fun e => h e.symm
  simp only [Store.insert, List.find?_cons, hc, List.find?_filter]
  congr 1
  funext x
  by_cases hx : x.id = id
  · simp [hx, h]
  · simp [hx]

theorem abs_insert (st : Store) (c : Credential) :
    Spec.abs (st.insert c) = (Spec.abs st).bind c.id c.owner c.publicKey := by
  funext id
  unfold Spec.abs Spec.State.bind
  by_cases h : id = c.id
  · subst h
    rw [find_insert_self, if_pos rfl]; rfl
  · rw [find_insert_other st c id h, if_neg h]

theorem get_found_iff (st : Store) (id : Bytes) (c : Credential) :
    st.get id = .found c → c.id = id ∧ Spec.abs st id = some (c.owner, c.publicKey) := by
  unfold Store.get Spec.abs
  cases hf : st.find? (fun x => x.id == id) with
  | none => intro h; cases h
  | some x =>
    intro h
    cases h
    have := List.find?_some hf
    exact ⟨by simpa using this, rfl⟩

theorem get_notFound_iff (st : Store) (id : Bytes) : st.get id = .notFound ↔ Spec.abs st id = none := by
  unfold Store.get Spec.abs
  cases st.find? (fun x => x.id == id) <;> simp

theorem get_cases (st : Store) (id : Bytes) :
    (st.get id = .notFound ∧ Spec.abs st id = none) ∨
    ∃ c, st.get id = .found c ∧ c.id = id ∧ Spec.abs st id = some (c.owner, c.publicKey) := by
  cases hg : st.get id with
  | notFound => exact Or.inl ⟨rfl, (get_notFound_iff st id).1 hg⟩
  | found c => exact Or.inr ⟨c, rfl, get_found_iff st id c hg⟩
  | wrappedNotFound => unfold Store.get at hg; split at hg <;> cases hg
  | err => unfold Store.get at hg; split at hg <;> cases hg

/-! ### the reference machine, one step, as pure functions of the two decisions -/

theorem regDecision_eq (env : Prog.Env) (rp : RP) (o : CreationOptions) (c : Attestation) (opts : List VerifyOption) :
    Spec.regDecision env rp o c opts =
      (match C02.regPre env rp o c opts with | .ok p => some p | .error _ => none) := by
  unfold Spec.regDecision Spec.regDecisionP C02.regPre
  simp only [Prog.run_bind]
  generalize (Prog.run env (verifyRegistration rp o c opts (fun _ => .notFound) (fun _ => .ok))).result = r
  cases r <;> rfl

theorem regDecision_some_iff (env : Prog.Env) (rp : RP) (o : CreationOptions) (c : Attestation) (opts : List VerifyOption)
    (id key : Bytes) :
    Spec.regDecision env rp o c opts = some (id, key) ↔ C02.regPre env rp o c opts = .ok (id, key) := by
  rw [regDecision_eq]
  cases C02.regPre env rp o c opts <;> simp

theorem regDecision_none_iff (env : Prog.Env) (rp : RP) (o : CreationOptions) (c : Attestation) (opts : List VerifyOption) :
    Spec.regDecision env rp o c opts = none ↔ ∃ e, C02.regPre env rp o c opts = .error e := by
  rw [regDecision_eq]
  cases C02.regPre env rp o c opts <;> simp

/-- the registration step of the reference machine as a function of the decision -/
def regStep (s : Spec.State) (u : Bytes) : Option (Bytes × Bytes) → HOut × Spec.State
  | none => (none, s)
  | some (id, key) =>
    match s id with
    | some (owner, _) => if owner ≠ u then (none, s) else (some ⟨id, u, key⟩, s.bind id u key)
    | none => (some ⟨id, u, key⟩, s.bind id u key)

theorem step_register (env : Prog.Env) (rp : RP) (s : Spec.State) (o : CreationOptions) (c : Attestation)
    (opts : List VerifyOption) :
    Spec.step env rp s (.register o c opts) = regStep s o.userId (Spec.regDecision env rp o c opts) := by
  unfold Spec.step Spec.stepP Spec.regDecision
  simp only [Prog.run_bind]
  generalize Prog.run env (Spec.regDecisionP rp o c opts) = d
  cases d with
  | none => rfl
  | some p =>
    obtain ⟨id, key⟩ := p
    simp only [regStep]
    cases hs : s id with
    | none => rfl
    | some q =>
      obtain ⟨owner, k0⟩ := q
      simp only []
      split <;> rfl

/-- the authentication step of the reference machine as a function of the decision -/
def authStep (s : Spec.State) (id : Bytes) (dec : Bytes → Bytes → Bool) : HOut × Spec.State :=
  match s id with
  | none => (none, s)
  | some (owner, key) => if dec owner key = true then (some ⟨id, owner, key⟩, s) else (none, s)

theorem step_authenticate (env : Prog.Env) (rp : RP) (s : Spec.State) (o : RequestOptions) (a : Assertion) :
    Spec.step env rp s (.authenticate o a) = authStep s a.rawId (Spec.authDecision env rp o a) := by
  simp only [Spec.step, Spec.stepP, authStep]
  cases hs : s a.rawId with
  | none => rfl
  | some q =>
    obtain ⟨owner, key⟩ := q
    simp only [Prog.run_bind]
    unfold Spec.authDecision
    generalize Prog.run env (Spec.authDecisionP rp o a owner key) = d
    cases d <;> rfl

theorem authDecision_eq (env : Prog.Env) (rp : RP) (o : RequestOptions) (a : Assertion) (owner key : Bytes) :
    Spec.authDecision env rp o a owner key =
      (match (Prog.run env (verifyAuthentication rp o a (fun _ => .found ⟨a.rawId, owner, key⟩))).result with
       | .ok _ => true | .error _ => false) := by
  unfold Spec.authDecision Spec.authDecisionP
  simp only [Prog.run_bind]
  generalize (Prog.run env (verifyAuthentication rp o a (fun _ => .found ⟨a.rawId, owner, key⟩))).result = r
  cases r <;> rfl

theorem authDecision_true_iff (env : Prog.Env) (rp : RP) (o : RequestOptions) (a : Assertion) (owner key : Bytes) :
    Spec.authDecision env rp o a owner key = true ↔
      (Prog.run env (verifyAuthentication rp o a (fun _ => .found ⟨a.rawId, owner, key⟩))).result =
        .ok ⟨a.rawId, owner, key⟩ := by
  rw [authDecision_eq]
  cases hr : (Prog.run env (verifyAuthentication rp o a (fun _ => .found ⟨a.rawId, owner, key⟩))).result with
  | error e => simp
  | ok cred =>
    have := C01.auth_returns_stored env rp o a _ cred hr
    simp only [GetOutcome.found.injEq] at this
    simp [this]

/-! ### the model, one ceremony -/

theorem step_refines_register (env : Prog.Env) (rp : RP) (st : Store) (o : CreationOptions) (c : Attestation)
    (opts : List VerifyOption) :
    (Prog.run env (hstep rp st (.register o c opts))).1 = (Spec.step env rp (Spec.abs st) (.register o c opts)).1 ∧
    Spec.abs (Prog.run env (hstep rp st (.register o c opts))).2 =
      (Spec.step env rp (Spec.abs st) (.register o c opts)).2 := by
  simp only [hstep, Prog.run_bind]
  rw [step_register, regDecision_eq, C02.reg_decompose]
  cases C02.regPre env rp o c opts with
  | error e => exact ⟨rfl, rfl⟩
  | ok p =>
    obtain ⟨id, key⟩ := p
    simp only [regStep]
    rcases get_cases st id with ⟨hg, ha⟩ | ⟨ex, hg, _, ha⟩ <;> rw [ha]
    · rw [C02.storageStep_write (.inl hg)]
      exact ⟨rfl, abs_insert st _⟩
    · dsimp only
      by_cases hown : ex.owner = o.userId
      · rw [C02.storageStep_write (.inr (.inr ⟨ex, hg, hown⟩)), if_neg (not_not_intro hown)]
        exact ⟨rfl, abs_insert st _⟩
      · rw [C02.storageStep_other_owner hg hown, if_pos hown]
        exact ⟨rfl, rfl⟩

theorem step_refines_authenticate (env : Prog.Env) (rp : RP) (st : Store) (o : RequestOptions) (a : Assertion) :
    (Prog.run env (hstep rp st (.authenticate o a))).1 = (Spec.step env rp (Spec.abs st) (.authenticate o a)).1 ∧
    Spec.abs (Prog.run env (hstep rp st (.authenticate o a))).2 =
      (Spec.step env rp (Spec.abs st) (.authenticate o a)).2 := by
  simp only [hstep, Prog.run_bind]
  rw [step_authenticate]
  unfold authStep
  rcases get_cases st a.rawId with ⟨hg, ha⟩ | ⟨⟨_, owner, key⟩, hg, rfl, ha⟩ <;> rw [ha]
  · cases hr : (Prog.run env (verifyAuthentication rp o a st.get)).result with
    | error e => exact ⟨rfl, rfl⟩
    | ok cred => cases hg.symm.trans (C01.auth_returns_stored env rp o a st.get cred hr)
  · rw [C01.auth_depends_on_get_rawId env rp o a st.get (fun _ => .found ⟨a.rawId, owner, key⟩) hg]
    dsimp only
    rw [authDecision_eq]
    cases hr : (Prog.run env (verifyAuthentication rp o a fun _ => .found ⟨a.rawId, owner, key⟩)).result with
    | error e => exact ⟨rfl, rfl⟩
    | ok cred => cases C01.auth_returns_stored env rp o a _ cred hr; exact ⟨rfl, rfl⟩

/-- one ceremony of the model against the in-memory storage simulates one step of the reference machine -/
theorem step_refines (env : Prog.Env) (rp : RP) (st : Store) (op : HOp) :
    (Prog.run env (hstep rp st op)).1 = (Spec.step env rp (Spec.abs st) op).1 ∧
    Spec.abs (Prog.run env (hstep rp st op)).2 = (Spec.step env rp (Spec.abs st) op).2 := by
  cases op with
  | register o c opts => exact step_refines_register env rp st o c opts
  | authenticate o a => exact step_refines_authenticate env rp st o a

/-! ### histories -/

theorem hrun_nil (env : Prog.Env) (rp : RP) (st : Store) : Prog.run env (hrun rp st []) = ([], st) := rfl

theorem hrun_cons (env : Prog.Env) (rp : RP) (st : Store) (op : HOp) (ops : List HOp) :
    Prog.run env (hrun rp st (op :: ops)) =
      ((Prog.run env (hstep rp st op)).1 :: (Prog.run env (hrun rp (Prog.run env (hstep rp st op)).2 ops)).1,
       (Prog.run env (hrun rp (Prog.run env (hstep rp st op)).2 ops)).2) := by
  simp only [hrun, Prog.run_bind]
  rfl

theorem runAll_nil (env : Prog.Env) (rp : RP) (s : Spec.State) : Spec.runAll env rp s [] = ([], s) := rfl

theorem runAll_cons (env : Prog.Env) (rp : RP) (s : Spec.State) (op : HOp) (ops : List HOp) :
    Spec.runAll env rp s (op :: ops) =
      ((Spec.step env rp s op).1 :: (Spec.runAll env rp (Spec.step env rp s op).2 ops).1,
       (Spec.runAll env rp (Spec.step env rp s op).2 ops).2) := by
  simp only [Spec.runAll, Spec.runAllP, Spec.step, Prog.run_bind]
  rfl

/-- ANY finite history: every ceremony's outcome and the resulting storage equal those of the reference machine -/
theorem history_refines (env : Prog.Env) (rp : RP) (st : Store) (ops : List HOp) :
    (Prog.run env (hrun rp st ops)).1 = (Spec.runAll env rp (Spec.abs st) ops).1 ∧
    Spec.abs (Prog.run env (hrun rp st ops)).2 = (Spec.runAll env rp (Spec.abs st) ops).2 := by
  induction ops generalizing st with
  | nil => exact ⟨rfl, rfl⟩
  | cons op ops ih =>
    obtain ⟨h1, h2⟩ := step_refines env rp st op
    obtain ⟨i1, i2⟩ := ih (Prog.run env (hstep rp st op)).2
    rw [hrun_cons, runAll_cons, ← h2, ← h1, ← i1, ← i2]
    exact ⟨rfl, rfl⟩

theorem history_refines_from_empty (env : Prog.Env) (rp : RP) (ops : List HOp) :
    (Prog.run env (hrun rp [] ops)).1 = (Spec.runAll env rp Spec.State.empty ops).1 ∧
    Spec.abs (Prog.run env (hrun rp [] ops)).2 = (Spec.runAll env rp Spec.State.empty ops).2 :=
  history_refines env rp [] ops

/-! ### properties of the reference machine -/

theorem register_cases (env : Prog.Env) (rp : RP) (s : Spec.State) (o : CreationOptions) (c : Attestation)
    (opts : List VerifyOption) :
    Spec.step env rp s (.register o c opts) = (none, s) ∨
    ∃ id key, Spec.regDecision env rp o c opts = some (id, key) ∧ (∀ owner k0, s id = some (owner, k0) → owner = o.userId) ∧
      Spec.step env rp s (.register o c opts) = (some ⟨id, o.userId, key⟩, s.bind id o.userId key) := by
  rw [step_register]
  cases Spec.regDecision env rp o c opts with
  | none => exact .inl rfl
  | some p =>
    obtain ⟨id, key⟩ := p
    simp only [regStep]
    cases hs : s id with
    | none => exact .inr ⟨id, key, rfl, (fun _ _ h => nomatch hs.symm.trans h), rfl⟩
    | some q =>
      by_cases hown : q.1 = o.userId
      · exact .inr ⟨id, key, rfl, fun _ _ h => by cases hs.symm.trans h; exact hown, if_neg (not_not_intro hown)⟩
      · exact .inl (if_pos hown)

theorem authenticate_cases (env : Prog.Env) (rp : RP) (s : Spec.State) (o : RequestOptions) (a : Assertion) :
    Spec.step env rp s (.authenticate o a) = (none, s) ∨
    ∃ owner key, s a.rawId = some (owner, key) ∧ Spec.authDecision env rp o a owner key = true ∧
      Spec.step env rp s (.authenticate o a) = (some ⟨a.rawId, owner, key⟩, s) := by
  rw [step_authenticate]
  unfold authStep
  cases s a.rawId with
  | none => exact .inl rfl
  | some q =>
    by_cases hd : Spec.authDecision env rp o a q.1 q.2 = true
    · exact .inr ⟨q.1, q.2, rfl, hd, if_pos hd⟩
    · exact .inl (if_neg hd)

/-- authentication never changes the state -/
theorem auth_preserves_state (env : Prog.Env) (rp : RP) (s : Spec.State) (o : RequestOptions) (a : Assertion) :
    (Spec.step env rp s (.authenticate o a)).2 = s := by
  obtain h | ⟨_, _, _, _, h⟩ := authenticate_cases env rp s o a <;> rw [h]

/-- failed ceremonies are stutters: the state is unchanged -/
theorem failed_is_stutter (env : Prog.Env) (rp : RP) (s : Spec.State) (op : HOp)
    (h : (Spec.step env rp s op).1 = none) : (Spec.step env rp s op).2 = s := by
  cases op with
  | register o c opts =>
    obtain hr | ⟨_, _, _, _, hr⟩ := register_cases env rp s o c opts <;> rw [hr] at h ⊢
    cases h
  | authenticate o a => exact auth_preserves_state env rp s o a

/-- a successful registration binds exactly (owner = options.user.id, key = attested key) to the attested id and
    nothing else changes -/
theorem register_binds (env : Prog.Env) (rp : RP) (s : Spec.State) (o : CreationOptions) (c : Attestation)
    (opts : List VerifyOption) (cred : Credential) (h : (Spec.step env rp s (.register o c opts)).1 = some cred) :
    cred.owner = o.userId ∧ (Spec.step env rp s (.register o c opts)).2 = s.bind cred.id o.userId cred.publicKey ∧
    Spec.regDecision env rp o c opts = some (cred.id, cred.publicKey) := by
  obtain hr | ⟨id, key, hd, _, hr⟩ := register_cases env rp s o c opts <;> rw [hr] at h ⊢ <;> cases h
  exact ⟨rfl, rfl, hd⟩

/-- an id bound to one user is never re-bound to another -/
theorem no_rebinding (env : Prog.Env) (rp : RP) (s : Spec.State) (o : CreationOptions) (c : Attestation)
    (opts : List VerifyOption) (id key owner k0 : Bytes)
    (hd : Spec.regDecision env rp o c opts = some (id, key)) (hs : s id = some (owner, k0)) (hne : owner ≠ o.userId) :
    Spec.step env rp s (.register o c opts) = (none, s) := by
  rw [step_register, hd]
  simp only [regStep, hs]
  rw [if_pos hne]

theorem step_at (env : Prog.Env) (rp : RP) (s : Spec.State) (op : HOp) (i : Bytes) :
    (Spec.step env rp s op).2 i = s i ∨
    ∃ o c opts key, op = .register o c opts ∧ Spec.regDecision env rp o c opts = some (i, key) ∧
      (∀ owner k0, s i = some (owner, k0) → owner = o.userId) ∧ (Spec.step env rp s op).2 i = some (o.userId, key) := by
  cases op with
  | authenticate o a => rw [auth_preserves_state]; exact .inl rfl
  | register o c opts =>
    obtain hr | ⟨id, key, hd, hown, hr⟩ := register_cases env rp s o c opts <;> rw [hr]
    · exact .inl rfl
    · by_cases hid : i = id
      · subst hid
        exact .inr ⟨o, c, opts, key, rfl, hd, hown, if_pos rfl⟩
      · exact .inl (if_neg hid)

/-- the owner of a bound id never changes along any history -/
theorem owner_stable (env : Prog.Env) (rp : RP) (s : Spec.State) (ops : List HOp) (id owner k0 : Bytes)
    (hs : s id = some (owner, k0)) : ∃ k1, (Spec.runAll env rp s ops).2 id = some (owner, k1) := by
  induction ops generalizing s k0 with
  | nil => exact ⟨k0, hs⟩
  | cons op ops ih =>
    rw [runAll_cons]
    obtain h | ⟨o, c, opts, key, rfl, -, hown, h⟩ := step_at env rp s op id
    · exact ih _ k0 (h.trans hs)
    · exact ih _ key (hown owner k0 hs ▸ h)

/-- an assertion succeeds only against the CURRENT binding of its id, under that binding's owner: in particular after a
    re-registration by the owner has replaced the key, what is verified is the new key (the old key authenticates only
    if it also verifies under the new binding) -/
theorem auth_uses_current_binding (env : Prog.Env) (rp : RP) (s : Spec.State) (o : RequestOptions) (a : Assertion)
    (cred : Credential) (h : (Spec.step env rp s (.authenticate o a)).1 = some cred) :
    ∃ owner key, s a.rawId = some (owner, key) ∧ cred = ⟨a.rawId, owner, key⟩ ∧
      Spec.authDecision env rp o a owner key = true := by
  obtain hr | ⟨owner, key, hs, hd, hr⟩ := authenticate_cases env rp s o a <;> rw [hr] at h <;> cases h
  exact ⟨owner, key, hs, rfl, hd⟩

/-- and `authDecision` is characterised by the ten conditions of C01 against that binding (so: only under the owner's
    user handle, only with a signature under the bound key) -/
theorem authDecision_iff (env : Prog.Env) (rp : RP) (o : RequestOptions) (a : Assertion) (owner key : Bytes) :
    Spec.authDecision env rp o a owner key = true ↔
      Spec.AuthOK env rp o a (fun _ => .found ⟨a.rawId, owner, key⟩) ⟨a.rawId, owner, key⟩ := by
  rw [authDecision_true_iff, C01.auth_iff]

/-- `regDecision` is characterised by the ceremony conditions of C02 -/
theorem regDecision_iff (env : Prog.Env) (rp : RP) (o : CreationOptions) (c : Attestation) (opts : List VerifyOption)
    (id key : Bytes) :
    Spec.regDecision env rp o c opts = some (id, key) ↔ Spec.RegPreOK env rp o c opts id key := by
  rw [regDecision_some_iff, C02.regPre_iff]

/-- ids never mentioned by a successful registration keep their binding: no sequence of failed or adversarial
    ceremonies changes an existing credential -/
theorem untouched_binding (env : Prog.Env) (rp : RP) (s : Spec.State) (ops : List HOp) (id : Bytes)
    (h : ∀ op ∈ ops, ∀ o c opts, op = .register o c opts → ∀ key, Spec.regDecision env rp o c opts = some (id, key) → False) :
    (Spec.runAll env rp s ops).2 id = s id := by
  induction ops generalizing s with
  | nil => rfl
  | cons op ops ih =>
    rw [runAll_cons]
    obtain h' | ⟨o, c, opts, key, rfl, hd, -⟩ := step_at env rp s op id
    · exact (ih _ fun op' hm => h op' (List.mem_cons_of_mem _ hm)).trans h'
    · exact (h _ List.mem_cons_self o c opts rfl key hd).elim

end WebAuthn.C07
