import WebAuthnModel.Spec.Url
import WebAuthnModel.Proofs.UrlLemmas
/-
  C13, host extraction — what `url.Parse(s).Hostname()` (Model/Url.lean, compared with net/url on every run) returns:
  only the host component of a well-formed URL, whatever stands in its user-info, port, path, query or fragment; nothing
  for host-less strings; never a string containing a delimiter.
-/
namespace WebAuthn.Theorems.C13Url
open WebAuthn.Url WebAuthn.Spec.Url

/-- The host reported for scheme://[userinfo@]host[:port][/path][?query][#fragment] is exactly `host`. -/
theorem hostOf_render (p : Parts) (h : p.WF) : hostOf p.render = some p.host := by
  obtain ⟨hv, hui, hh, hport, hpath, hquery, hfrag⟩ := h
  have hU := hostPort_all hh hport plain_safe colon_sub.1
  have hA : (uiPre p.userinfo ++ hostPort p.host p.port).all (avoids authX) = true := by
    simp [List.all_append, uiPre_authChar p.userinfo hui, all_mono (avoids_mono (X := authX) (by decide)) hU]
  have hauth := parseAuthority_ui p.userinfo _ _ (not_mem_of_all (avoids_ne (by decide)) hU) hui (parseHost_hostPort hh hport)
  rw [render_eq, hostOf_url _ _ _ _ _ _ hv hA hauth hpath hquery hfrag, hostname_hostPort hh hport]

/-- …so two well-formed URLs with the same host component are indistinguishable to the origin check. -/
theorem hostOf_only_host (p q : Parts) (hp : p.WF) (hq : q.WF) (h : p.host = q.host) :
    hostOf p.render = hostOf q.render := by
  rw [hostOf_render p hp, hostOf_render q hq, h]

/-- non-vacuity: a URL with every component present, carrying another host name in user-info, path, query and fragment -/
def examplePartsBytes : Bytes := "https://example.com:pw@evil.org:8443/example.com?example.com#example.com".toUTF8.toList
def exampleParts : Parts :=
  { scheme := "https".toUTF8.toList, userinfo := some "example.com:pw".toUTF8.toList, host := "evil.org".toUTF8.toList,
    port := some "8443".toUTF8.toList, path := "/example.com".toUTF8.toList, query := some "example.com".toUTF8.toList,
    fragment := some "example.com".toUTF8.toList }
theorem exampleParts_wf : exampleParts.WF ∧ exampleParts.render = examplePartsBytes := by
  -- every string is decoded once: one evaluation of what well-formedness asks of the components, then the assembly
  have key : (exampleParts.scheme = 104 :: [116, 116, 112, 115] ∧ isAlpha 104 = true) ∧
      exampleParts.scheme.all schemeChar = true ∧ "example.com:pw".toUTF8.toList.all userinfoChar = true ∧
      exampleParts.host ≠ [] ∧ exampleParts.host.all plainHostChar = true ∧ "8443".toUTF8.toList.all isDigit = true ∧
      (exampleParts.path = ch '/' :: "example.com".toUTF8.toList ∧
        exampleParts.path.all (fun c => !(c = ch '?' || c = ch '#' || c = ch '%' || isCTL c)) = true) ∧
      "example.com".toUTF8.toList.all (fun c => !(c = ch '#' || isCTL c)) = true ∧
      "example.com".toUTF8.toList.all (fun c => !(c = ch '%')) = true ∧
      exampleParts.render = examplePartsBytes := by decide +kernel
  obtain ⟨h1, h2, h3, h4, h5, h6, h7, h8, h9, h10⟩ := key
  exact ⟨⟨⟨⟨_, _, h1⟩, h2⟩, fun u hu => by cases hu; exact h3, ⟨h4, h5⟩, fun q hq => by cases hq; exact h6,
    Or.inr ⟨⟨_, h7.1⟩, h7.2⟩, fun q hq => by cases hq; exact h8, fun f hf => by cases hf; exact h9⟩, h10⟩

/-- a string without control bytes, ':', '/', '?', '#', '@' and '%', other than "*", parses, as a path: there is no host -/
theorem hostOf_no_delimiter (h : Bytes) (hS : h.all (avoids safeX) = true) (hcolon : ch ':' ∉ h) (hstar : h ≠ [ch '*']) :
    hostOf h = some [] := by
  have hslash : ch '/' ∉ h := not_mem_of_all (avoids_ne (by decide)) hS
  have hun := unescape_id_other .path (by decide) (by decide) h (not_mem_of_all (avoids_ne (by decide)) hS)
  have hfield : parseHostField h = some [] := by
    unfold parseHostField
    rw [hasCTL_false_of_all hS, getScheme, getSchemeAux_no_colon h h 0 hcolon]
    simp only [query_step]
    simp only [cut_not_mem _ _ (not_mem_of_all (avoids_ne (x := ch '?') (by decide)) hS)]
    cases h with
    | nil => simp [hun, cut]
    | cons c t =>
      have h2 : c ≠ ch '/' := fun e => hslash (by simp [e])
      have hc1 : ¬ ch ':' = c := fun e => hcolon (by simp [e])
      have hc2 : ch ':' ∉ t := fun e => hcolon (by simp [e])
      simp [hstar, h2, Ne.symm h2, cut_not_mem _ _ hslash, hc1, hc2, hun]
  rw [hostOf_eq, cut_not_mem _ _ (not_mem_of_all (avoids_ne (x := ch '#') (by decide)) hS)]
  simp only [hfield, if_true]
  decide +kernel

/-- a bare host name (no scheme, no "//") parses, as a path: there is no host -/
theorem hostOf_bare_host (h : Bytes) (hh : PlainHost h) : hostOf h = some [] := by
  obtain ⟨hne, hall⟩ := hh
  refine hostOf_no_delimiter h (all_mono plain_safe hall)
    (not_mem_of_all (fun c h => (plainHostChar_sub c h).2.2.1) hall) fun e => ?_
  rw [e] at hall
  exact absurd hall (by decide +kernel)

theorem hostOf_empty : hostOf [] = some [] := by
  exact hostOf_no_delimiter [] rfl (by simp) (by simp)

/-- an ASCII control character before the fragment makes the URL unparsable -/
theorem hostOf_ctl (s : Bytes) (h : hasCTL (cut (ch '#') s).1 = true) : hostOf s = none := by
  rw [hostOf_eq, parseHostField, h]; rfl

/-- a reported host never contains '/', '?', '#', '@' or '\\' -/
theorem hostOf_no_delimiters (s h : Bytes) (hs : hostOf s = some h) : ∀ c ∈ neverInHost, c ∉ h := by
  intro c hc hch
  have := List.all_eq_true.mp hostOut_not_never c hc
  simp [List.all_eq_true.mp (hostOf_hostOut s h hs) c hch] at this

/-- concrete boundary cases of the property text, evaluated in the kernel -/
theorem boundary_cases :
    hostOf "https://example.com@evil.org".toUTF8.toList = some "evil.org".toUTF8.toList ∧
    hostOf "https://evil.org/example.com".toUTF8.toList = some "evil.org".toUTF8.toList ∧
    hostOf "https://evil.org?example.com".toUTF8.toList = some "evil.org".toUTF8.toList ∧
    hostOf "https://evil.org#example.com".toUTF8.toList = some "evil.org".toUTF8.toList ∧
    hostOf "https://evil.org#@example.com".toUTF8.toList = some "evil.org".toUTF8.toList ∧
    hostOf "https://evil.org\\@example.com".toUTF8.toList = none ∧
    hostOf "https://example.com:443".toUTF8.toList = some "example.com".toUTF8.toList ∧
    hostOf "https://[2001:db8::1]:8443".toUTF8.toList = some "2001:db8::1".toUTF8.toList ∧
    hostOf "example.com".toUTF8.toList = some [] ∧
    hostOf "https://".toUTF8.toList = some [] ∧
    hostOf "://example.com".toUTF8.toList = none ∧
    hostOf "https://exa mple.com".toUTF8.toList = none ∧
    hostOf "https://example.com:x".toUTF8.toList = none ∧
    hostOf "https://ex%61mple.com".toUTF8.toList = none := by
  decide +kernel

end WebAuthn.Theorems.C13Url
