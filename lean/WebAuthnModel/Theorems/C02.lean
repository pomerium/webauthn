import WebAuthnModel.Theorems.C01
import WebAuthnModel.Theorems.C08
/-
  C02 — the registration ceremony decision (relying_party.go `VerifyRegistrationCeremony`).
-/
open WebAuthn
namespace WebAuthn.C02

theorem run_askClientData (env : Prog.Env) (raw : Bytes) :
    Prog.run env (askClientData raw) = Json.clientData raw := rfl

/-! ### definitions of the statement -/

/-- the pre-storage decision: error, or the attested credential id and COSE key bytes -/
def regPre (env : Prog.Env) (rp : RP) (o : CreationOptions) (c : Attestation) (opts : List VerifyOption) : Except RegErr (Bytes × Bytes) :=
  match (Prog.run env (verifyRegistration rp o c opts (fun _ => .notFound) (fun _ => .ok))).result with
  | .ok cr => .ok (cr.id, cr.publicKey)
  | .error e => .error e

/-- the storage step, as a pure function of the storage answers -/
def storageStep (userId : Bytes) (get : Bytes → GetOutcome) (set : Credential → SetOutcome) (id key : Bytes) : RegOut :=
  let cred : Credential := ⟨id, userId, key⟩
  let write : RegOut := match set cred with
    | .ok => ⟨.ok cred, [Call.get id, Call.set cred]⟩
    | .err => ⟨.error .saveErr, [Call.get id, Call.set cred]⟩
  match get id with
  | .notFound => write
  | .wrappedNotFound => write
  | .err => ⟨.error .storageErr, [Call.get id]⟩
  | .found existing => if existing.owner ≠ userId then ⟨.error .differentUser, [Call.get id]⟩ else write

/-! ### the program as a pure decision followed by the storage step -/

/-- the pre-storage decision as a pure function (same scrutinees as the program, in the same order) -/
def regCore (env : Prog.Env) (rp : RP) (o : CreationOptions) (c : Attestation) (opts : List VerifyOption) :
    Except RegErr (Bytes × Bytes) :=
  match Prog.run env (askClientData c.clientDataJSON) with
  | none => .error .clientData
  | some cd =>
    if cd.type ≠ strBytes Generated.Core.clientDataTypeCreate then .error .type
    else if B64.encode o.challenge ≠ cd.challenge then .error .challenge
    else if !(Prog.run env (originMatches cd.origin rp.origin)) then .error .origin
    else
      match unmarshalAttestationObject c.attestationObject with
      | .err => .error .attObj
      | .unmodelled => .error .unmodelled
      | .ok ao _ =>
        match unmarshalAuthData ao.authData with
        | none => .error .authData
        | some (ad, _) =>
          if Spec.sha256 env rp.id ≠ ad.rpIdHash then .error .rpIdHash
          else if !flagsUP ad.flags then .error .notPresent
          else if o.authSelUV = some (strBytes Generated.Core.userVerificationRequired) ∧ !flagsUV ad.flags then
            .error .notVerified
          else match ad.acd with
            | none => .error .noAttestedData
            | some acd =>
              match Cose.parse acd.credentialPublicKey with
              | .unmodelled => .error .unmodelled
              | .err _ => .error .publicKey
              | .ok k _ =>
                if !o.algs.contains k.alg then .error .algorithm else
                match Prog.run env (Att.verify ao (Spec.sha256 env c.clientDataJSON)) with
                | none => .error .statement
                | some res =>
                  if !(getVerifyConfig opts).types.contains (strBytes res.type) then .error .typeNotAllowed
                  else if !(getVerifyConfig opts).formats.contains ao.fmt then .error .formatNotAllowed
                  else if c.rawId ≠ acd.credentialId then .error .rawId
                  else .ok (c.rawId, acd.credentialPublicKey)

def finish (userId : Bytes) (get : Bytes → GetOutcome) (set : Credential → SetOutcome) : Except RegErr (Bytes × Bytes) → RegOut
  | .error e => ⟨.error e, []⟩
  | .ok (id, key) => storageStep userId get set id key

/-- the invariant of the walk down the program and `regCore` side by side: the program returns what `finish` makes of
    the decision, and the decision is `.ok` only under `Spec.RegPreOK`.  A rejecting leaf satisfies it for no reason
    (`sim_err`), so the walk only collects what each guard lets through, up to the storage step. -/
def Sim (env : Prog.Env) (rp : RP) (o : CreationOptions) (c : Attestation) (opts : List VerifyOption)
    (get : Bytes → GetOutcome) (set : Credential → SetOutcome) (out : RegOut) (x : Except RegErr (Bytes × Bytes)) : Prop :=
  out = finish o.userId get set x ∧ ∀ id key, x = .ok (id, key) → Spec.RegPreOK env rp o c opts id key

theorem sim_err {env rp o c opts get set} {e : RegErr} : Sim env rp o c opts get set ⟨.error e, []⟩ (.error e) :=
  ⟨rfl, nofun⟩

theorem sim_guard {env rp o c opts get set} {g : Prop} {_ : Decidable g} {e : RegErr} {p : Prog RegOut}
    {x : Except RegErr (Bytes × Bytes)} (h : ¬g → Sim env rp o c opts get set (Prog.run env p) x) :
    Sim env rp o c opts get set (Prog.run env (if g then pure ⟨.error e, []⟩ else p)) (if g then .error e else x) := by
  split
  · exact sim_err
  · exact h ‹_›

theorem run_sim (env rp o c opts) (get : Bytes → GetOutcome) (set : Credential → SetOutcome) :
    Sim env rp o c opts get set (Prog.run env (verifyRegistration rp o c opts get set)) (regCore env rp o c opts) := by
  unfold verifyRegistration regCore
  rw [Prog.run_bind]
  generalize hcd : Prog.run env (askClientData _) = x
  obtain _ | cd := x
  · exact sim_err
  refine sim_guard fun ht => ?_
  refine sim_guard fun hch => ?_
  rw [Prog.run_bind]
  refine sim_guard fun hor => ?_
  rw [Prog.run_bind, Att.run_sha256]
  generalize hao : unmarshalAttestationObject _ = x
  obtain ⟨ao, rest⟩ | _ | _ := x
  case err => exact sim_err
  case unmodelled => exact sim_err
  dsimp only
  generalize had : unmarshalAuthData _ = x
  obtain _ | ⟨ad, adRest⟩ := x
  · exact sim_err
  rw [Prog.run_bind, Att.run_sha256]
  refine sim_guard fun hrp => ?_
  refine sim_guard fun hup => ?_
  refine sim_guard fun huv => ?_
  generalize hacd : ad.acd = x
  obtain _ | acd := x
  · exact sim_err
  dsimp only
  generalize hk : Cose.parse _ = x
  obtain ⟨k, kRest⟩ | _ | _ := x
  case err => exact sim_err
  case unmodelled => exact sim_err
  refine sim_guard fun halg => ?_
  rw [Prog.run_bind]
  generalize hres : Prog.run env (Att.verify ..) = x
  obtain _ | res := x
  · exact sim_err
  refine sim_guard fun hty => ?_
  refine sim_guard fun hfm => ?_
  refine sim_guard fun hraw => ?_
  replace hraw := Classical.not_not.1 hraw
  refine ⟨?_, fun _ _ h => ?_⟩
  · show _ = storageStep ..
    dsimp only [storageStep]
    generalize set _ = s
    cases get c.rawId
    case found => dsimp only; rw [Prog.run_ite]; cases s <;> rfl
    all_goals cases s <;> rfl
  · cases h
    exact ⟨⟨cd, hcd, Classical.not_not.1 ht, (Classical.not_not.1 hch).symm, (run_originMatches ..).1 (of_not_bnot hor)⟩,
      ao, rest, ad, adRest, acd, k, kRest, res, hao, had, (Classical.not_not.1 hrp).symm,
      (C10.flag_bits _).1 ▸ of_not_bnot hup,
      fun hreq => (C10.flag_bits _).2.1 ▸ of_not_bnot fun hv => huv ⟨hreq, hv⟩, hacd, hk,
      List.contains_iff_mem.1 (of_not_bnot halg), hres,
      (C08.config_spec opts).2 ▸ List.contains_iff_mem.1 (of_not_bnot hty),
      (C08.config_spec opts).1 ▸ List.contains_iff_mem.1 (of_not_bnot hfm), hraw, hraw, rfl⟩

theorem run_eq_finish (env rp o c opts) (get : Bytes → GetOutcome) (set : Credential → SetOutcome) :
    Prog.run env (verifyRegistration rp o c opts get set) = finish o.userId get set (regCore env rp o c opts) :=
  (run_sim env rp o c opts get set).1

theorem regPre_eq_core (env rp o c opts) : regPre env rp o c opts = regCore env rp o c opts := by
  unfold regPre
  rw [run_eq_finish]
  cases regCore env rp o c opts <;> rfl

theorem reg_decompose (env rp o c opts) (get : Bytes → GetOutcome) (set : Credential → SetOutcome) :
    Prog.run env (verifyRegistration rp o c opts get set) =
      match regPre env rp o c opts with
      | .error e => ⟨.error e, []⟩
      | .ok (id, key) => storageStep o.userId get set id key := by
  rw [regPre_eq_core]
  exact run_eq_finish env rp o c opts get set

/-! ### the pure decision is exactly `Spec.RegPreOK` -/

theorem str_create : strBytes Generated.Core.clientDataTypeCreate = Spec.str "webauthn.create" := rfl

theorem core_ok_of (env rp o c opts) (id key : Bytes) (h : Spec.RegPreOK env rp o c opts id key) :
    regCore env rp o c opts = .ok (id, key) := by
  obtain ⟨⟨cd, hcd, ht, hch, hor⟩, ao, rest, ad, adRest, acd, k, kRest, res, hao, had, hrp, hup, huv, hacd, hk, halg,
    hres, hty, hfm, hraw, rfl, rfl⟩ := h
  have huv' : ¬(o.authSelUV = some (Spec.str "required") ∧ (!Spec.bit ad.flags 2) = true) :=
    fun ⟨h1, h2⟩ => by rw [huv h1] at h2; cases h2
  replace hty : strBytes res.type ∈ _ := hty
  simp only [regCore, run_askClientData, hcd, str_create, ht, hch, (run_originMatches ..).2 hor, hao, had, hrp,
    (C10.flag_bits _).1, hup, C01.uv_str, (C10.flag_bits _).2.1, huv', hacd, hk, List.contains_iff_mem.2 halg, hres,
    C08.config_spec, List.contains_iff_mem.2 hty, List.contains_iff_mem.2 hfm, hraw, ne_eq, not_true_eq_false,
    ↓reduceIte, Bool.not_true, Bool.false_eq_true]

theorem core_ok_iff (env rp o c opts) (id key : Bytes) :
    regCore env rp o c opts = .ok (id, key) ↔ Spec.RegPreOK env rp o c opts id key :=
  ⟨(run_sim env rp o c opts (fun _ => .err) (fun _ => .err)).2 id key, core_ok_of env rp o c opts id key⟩


/-! ### the statements of C02 -/

/-- the pre-storage decision succeeds iff every ceremony condition of C02 holds (Spec.RegPreOK), and then returns the ATTESTED id and key -/
theorem regPre_iff (env rp o c opts) (id key : Bytes) :
    regPre env rp o c opts = .ok (id, key) ↔ Spec.RegPreOK env rp o c opts id key := by
  rw [regPre_eq_core]; exact core_ok_iff env rp o c opts id key

/-! ### the storage step, case by case -/

/-- the storage answers on which registration goes on to write: no record (a wrapped not-found counts), or a record of the same user -/
def Free (u : Bytes) (g : GetOutcome) : Prop := g = .notFound ∨ g = .wrappedNotFound ∨ ∃ ex, g = .found ex ∧ ex.owner = u

theorem get_trichotomy (u : Bytes) (g : GetOutcome) : g = .err ∨ (∃ ex, g = .found ex ∧ ex.owner ≠ u) ∨ Free u g := by
  cases g with
  | err => exact .inl rfl
  | notFound => exact .inr (.inr (.inl rfl))
  | wrappedNotFound => exact .inr (.inr (.inr (.inl rfl)))
  | found ex =>
    by_cases h : ex.owner = u
    · exact .inr (.inr (.inr (.inr ⟨ex, rfl, h⟩)))
    · exact .inr (.inl ⟨ex, rfl, h⟩)

section
variable {u : Bytes} {get : Bytes → GetOutcome} {set : Credential → SetOutcome} {id key : Bytes}

theorem storageStep_read_err (hget : get id = .err) : storageStep u get set id key = ⟨.error .storageErr, [Call.get id]⟩ := by
  simp only [storageStep, hget]

theorem storageStep_other_owner {ex : Credential} (hget : get id = .found ex) (hown : ex.owner ≠ u) :
    storageStep u get set id key = ⟨.error .differentUser, [Call.get id]⟩ := by
  simp only [storageStep, hget, hown, ne_eq, not_false_eq_true, ↓reduceIte]

theorem storageStep_write (hget : Free u (get id)) :
    storageStep u get set id key =
      match set ⟨id, u, key⟩ with
      | .ok => ⟨.ok ⟨id, u, key⟩, [Call.get id, Call.set ⟨id, u, key⟩]⟩
      | .err => ⟨.error .saveErr, [Call.get id, Call.set ⟨id, u, key⟩]⟩ := by
  obtain h | h | ⟨ex, h, hown⟩ := hget <;> simp only [storageStep, *, ne_eq, not_true_eq_false, ↓reduceIte] <;> rfl

/-- the four outcomes of the storage step -/
theorem storageStep_cases (u : Bytes) (get : Bytes → GetOutcome) (set : Credential → SetOutcome) (id key : Bytes) :
    storageStep u get set id key = ⟨.error .storageErr, [Call.get id]⟩ ∨
    storageStep u get set id key = ⟨.error .differentUser, [Call.get id]⟩ ∨
    (Free u (get id) ∧ set ⟨id, u, key⟩ = .ok ∧
      storageStep u get set id key = ⟨.ok ⟨id, u, key⟩, [Call.get id, Call.set ⟨id, u, key⟩]⟩) ∨
    (set ⟨id, u, key⟩ = .err ∧
      storageStep u get set id key = ⟨.error .saveErr, [Call.get id, Call.set ⟨id, u, key⟩]⟩) := by
  obtain hg | ⟨ex, hg, hown⟩ | hg := get_trichotomy u (get id)
  · exact .inl (storageStep_read_err hg)
  · exact .inr (.inl (storageStep_other_owner hg hown))
  · rw [storageStep_write hg]
    cases hs : set ⟨id, u, key⟩
    · exact .inr (.inr (.inl ⟨hg, rfl, rfl⟩))
    · exact .inr (.inr (.inr ⟨rfl, rfl⟩))

theorem storageStep_ok_iff (cred : Credential) :
    (storageStep u get set id key).result = .ok cred ↔ cred = ⟨id, u, key⟩ ∧ Free u (get id) ∧ set cred = .ok := by
  constructor
  · intro h
    obtain hs | hs | ⟨hg, hset, hs⟩ | ⟨_, hs⟩ := storageStep_cases u get set id key <;> rw [hs] at h <;> cases h
    exact ⟨rfl, hg, hset⟩
  · rintro ⟨rfl, hg, hs⟩
    rw [storageStep_write hg, hs]

end

/-- under `Spec.RegPreOK` the ceremony is the storage step on the attested id and key -/
theorem run_of_pre (env rp o c opts) (get : Bytes → GetOutcome) (set : Credential → SetOutcome) (id key : Bytes)
    (hpre : Spec.RegPreOK env rp o c opts id key) :
    Prog.run env (verifyRegistration rp o c opts get set) = storageStep o.userId get set id key := by
  rw [run_eq_finish, (core_ok_iff ..).2 hpre]; rfl

/-- every run: rejected before storage is consulted, or the storage step on the attested id and key -/
theorem run_cases (env rp o c opts) (get : Bytes → GetOutcome) (set : Credential → SetOutcome) :
    (∃ e, Prog.run env (verifyRegistration rp o c opts get set) = ⟨.error e, []⟩) ∨
    ∃ id key, Spec.RegPreOK env rp o c opts id key ∧
      Prog.run env (verifyRegistration rp o c opts get set) = storageStep o.userId get set id key := by
  rw [run_eq_finish]
  cases h : regCore env rp o c opts with
  | error e => exact .inl ⟨e, rfl⟩
  | ok p => exact .inr ⟨p.1, p.2, (core_ok_iff ..).1 h, rfl⟩

/-- full statement: a credential is returned iff all conditions hold, the id is not owned by another user, and the write succeeds -/
theorem reg_iff (env rp o c opts get set) (cred : Credential) :
    (Prog.run env (verifyRegistration rp o c opts get set)).result = .ok cred ↔
      ∃ id key, Spec.RegPreOK env rp o c opts id key ∧ cred = ⟨id, o.userId, key⟩ ∧
        (get id = .notFound ∨ get id = .wrappedNotFound ∨ ∃ ex, get id = .found ex ∧ ex.owner = o.userId) ∧ set cred = .ok := by
  constructor
  · intro h
    obtain ⟨e, hr⟩ | ⟨id, key, hpre, hr⟩ := run_cases env rp o c opts get set <;> rw [hr] at h
    · cases h
    · exact ⟨id, key, hpre, (storageStep_ok_iff cred).1 h⟩
  · rintro ⟨id, key, hpre, h⟩
    rw [run_of_pre env rp o c opts get set id key hpre]
    exact (storageStep_ok_iff cred).2 h

/-- the conditions determine the attested id and key -/
theorem pre_unique (env rp o c opts) (id key id' key' : Bytes)
    (h : Spec.RegPreOK env rp o c opts id key) (h' : Spec.RegPreOK env rp o c opts id' key') : id = id' ∧ key = key' := by
  have := ((core_ok_iff ..).2 h).symm.trans ((core_ok_iff ..).2 h')
  simpa using this

/-- absent authenticatorSelection only removes the UV demand: with `authSelUV = none` the outcome equals that for any non-"required" value -/
theorem reg_absent_authSel (env : Prog.Env) (rp : RP) (o : CreationOptions) (c : Attestation) (opts : List VerifyOption)
    (get : Bytes → GetOutcome) (set : Credential → SetOutcome) (uv : Bytes) (huv : uv ≠ Spec.str "required") :
    Prog.run env (verifyRegistration rp { o with authSelUV := none } c opts get set) =
    Prog.run env (verifyRegistration rp { o with authSelUV := some uv } c opts get set) := by
  rw [run_eq_finish, run_eq_finish]
  have huv' : uv ≠ strBytes Generated.Core.userVerificationRequired := huv
  have : regCore env rp { o with authSelUV := none } c opts = regCore env rp { o with authSelUV := some uv } c opts := by
    unfold regCore
    simp only [Option.some.injEq, huv', false_and, reduceCtorEq]
  rw [this]

/-- authenticator data without attested credential data is always rejected (never a crash, never success) -/
theorem reg_no_attested_data_rejects (env rp o c opts get set) (ao rest ad adRest)
    (h1 : unmarshalAttestationObject c.attestationObject = .ok ao rest) (h2 : unmarshalAuthData ao.authData = some (ad, adRest))
    (h3 : ad.acd = none) : ∀ cr, (Prog.run env (verifyRegistration rp o c opts get set)).result ≠ .ok cr := by
  intro cr h
  obtain ⟨id, key, ⟨_, ⟨ao', rest', ad', adRest', acd, k, kRest, res, hao, had, _, _, _, hacd, _⟩⟩, _⟩ := (reg_iff ..).1 h
  rw [h1] at hao
  cases hao
  rw [h2] at had
  cases had
  rw [h3] at hacd
  cases hacd

/-- a raw id different from the attested credential id is rejected -/
theorem reg_rawId_mismatch_rejects (env rp o c opts get set) (ao rest ad adRest acd)
    (h1 : unmarshalAttestationObject c.attestationObject = .ok ao rest) (h2 : unmarshalAuthData ao.authData = some (ad, adRest))
    (h3 : ad.acd = some acd) (h4 : c.rawId ≠ acd.credentialId) :
    ∀ cr, (Prog.run env (verifyRegistration rp o c opts get set)).result ≠ .ok cr := by
  intro cr h
  obtain ⟨id, key, ⟨_, ⟨ao', rest', ad', adRest', acd', k, kRest, res, hao, had, _, _, _, hacd, _, _, _, _, _, hraw, _⟩⟩, _⟩ :=
    (reg_iff ..).1 h
  rw [h1] at hao
  cases hao
  rw [h2] at had
  cases had
  rw [h3] at hacd
  cases hacd
  exact h4 hraw

/-- policy (C08): success implies format and type are in the configured sets; an empty set of either kind rejects everything -/
theorem reg_ok_implies_allowed (env rp o c opts get set cred)
    (h : (Prog.run env (verifyRegistration rp o c opts get set)).result = .ok cred) :
    ∃ ao rest res, unmarshalAttestationObject c.attestationObject = .ok ao rest ∧
      Prog.run env (Att.verify ao (Spec.sha256 env c.clientDataJSON)) = some res ∧
      ao.fmt ∈ Spec.allowedFormats opts ∧ Spec.str res.type ∈ Spec.allowedTypes opts := by
  obtain ⟨id, key, ⟨_, ⟨ao, rest, ad, adRest, acd, k, kRest, res, hao, _, _, _, _, _, _, _, hres, htypes, hfmts, _⟩⟩, _⟩ :=
    (reg_iff ..).1 h
  exact ⟨ao, rest, res, hao, hres, hfmts, htypes⟩

theorem reg_empty_formats_rejects (env rp o c opts get set) (h : Spec.allowedFormats opts = []) :
    ∀ cr, (Prog.run env (verifyRegistration rp o c opts get set)).result ≠ .ok cr := by
  intro cr hcr
  obtain ⟨ao, _, _, _, _, hf, _⟩ := reg_ok_implies_allowed env rp o c opts get set cr hcr
  rw [h] at hf
  cases hf

theorem reg_empty_types_rejects (env rp o c opts get set) (h : Spec.allowedTypes opts = []) :
    ∀ cr, (Prog.run env (verifyRegistration rp o c opts get set)).result ≠ .ok cr := by
  intro cr hcr
  obtain ⟨ao, _, res, _, _, _, ht⟩ := reg_ok_implies_allowed env rp o c opts get set cr hcr
  rw [h] at ht
  cases ht

/-! ### non-vacuity -/

namespace Example

def zeros (n : Nat) : Bytes := List.replicate n 0
def keyBytes : Bytes := [0xa4, 0x01, 0x01, 0x03, 0x27, 0x20, 0x06, 0x21, 0x58, 0x20] ++ zeros 32
def authData : Bytes := zeros 32 ++ [0x41] ++ [0, 0, 0, 0] ++ zeros 16 ++ [0, 1] ++ [7] ++ keyBytes
def attObj : Bytes :=
  [0xa3, 0x63] ++ Spec.str "fmt" ++ [0x64] ++ Spec.str "none" ++ [0x67] ++ Spec.str "attStmt" ++ [0xa0] ++
  [0x68] ++ Spec.str "authData" ++ [0x58, 98] ++ authData
def o : CreationOptions := ⟨[1, 2, 3], [42], [-7, -8], none⟩
def env : Prog.Env := ⟨fun q => match q with
  | .sha256 _ => .bytes (zeros 32)
  | _ => .none⟩
def rp : RP := ⟨Spec.str "https://example.com", Spec.str "example.com"⟩
/-- the client data of the example: a real JSON document; `AQID` is base64url of the options' challenge `[1, 2, 3]` -/
def clientDataJSON : Bytes :=
  Bytes.ofString "{\"type\":\"webauthn.create\",\"challenge\":\"AQID\",\"origin\":\"https://login.example.com\",\"crossOrigin\":false}"
def att : Attestation := ⟨[7], clientDataJSON, attObj⟩

/-- the example's origins really parse to the hosts the example intends (a subdomain of the RP host, and the RP host) -/
theorem client_host : Url.hostOf (Spec.str "https://login.example.com") = some (Spec.str "login.example.com") := by
  decide +kernel
theorem rp_host : Url.hostOf rp.origin = some rp.id := by decide +kernel


/-- the whole decision, evaluated by the kernel on the literal bytes (`Except` has no `DecidableEq`; `Option` has) -/
theorem core_ok : regCore env rp o att [] = .ok ([7], keyBytes) :=
  have h : (regCore env rp o att []).toOption = some ([7], keyBytes) := by decide +kernel
  match regCore env rp o att [], h with
  | .ok _, rfl => rfl

/-- NON-VACUITY: `Spec.RegPreOK` holds for a concrete environment and a concrete `none`-format attestation object
    (the CBOR decoder, the authenticator-data and COSE parsers and the dispatch are evaluated on the literal bytes) -/
example : Spec.RegPreOK env rp o att [] [7] keyBytes := (core_ok_iff ..).1 core_ok

/-- and the whole ceremony then succeeds against the empty in-memory storage, returning the attested record -/
example : (Prog.run env (verifyRegistration rp o att [] (Store.get []) (fun _ => .ok))).result = .ok ⟨[7], [42], keyBytes⟩ :=
  (reg_iff ..).2 ⟨[7], keyBytes, (core_ok_iff ..).1 core_ok, rfl, Or.inl rfl, rfl⟩
end Example

end WebAuthn.C02
