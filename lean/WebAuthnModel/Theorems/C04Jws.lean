import WebAuthnModel.Model.JwsVerify
import WebAuthnModel.Generated.TpmAndroid
import WebAuthnModel.Proofs.Base64
import WebAuthnModel.Proofs.BytesLemmas
/-
  The compact-JWS model (Model/Jws.lean, go-jose v3.0.3 `jose.ParseSigned` as the android-safetynet verifier uses it), taken on its own:

  * `parse_ok_parts`       : an accepted token is, after whitespace stripping, exactly three dot-separated parts whose base64url
                             decodings (trailing '=' trimmed) are the protected header bytes, the payload and the signature;
                             the header decodes, carries no "jwk", and `alg` / `x5c` / `verifiable` are read from it;
  * `signingInput_eq`      : what go-jose verifies is base64url(protected) "." base64url(payload) (payload raw under "b64": false);
  * `signingInput_inj`     : that message determines the protected header bytes and the payload — a signature over it binds both;
  * `parseCompact_honest`  : the canonical token of (header bytes, payload, signature) parses back to exactly these;
  * `strip_plain`          : whitespace stripping leaves a string of non-space ASCII bytes unchanged;
  * `claims_null`, `claims_empty_object` : the two smallest accepted payloads.
-/
namespace WebAuthn.C04Jws
open WebAuthn WebAuthn.Jws

/-! ### helper lemmas: the base64url alphabet, `splitDots`, `trimPad`, `stripLoop` -/

theorem encode_plain (b : Bytes) (x : UInt8) (hx : x ∈ B64.encode b) : x.toNat < 0x80 ∧ isAsciiSpace x = false := by
  obtain ⟨n, hn⟩ := B64.mem_encode_valOf b x hx
  obtain ⟨-, h1, h2⟩ := B64.valOf_some x n hn
  have h32 : x ≠ 32 := fun e => by rw [e] at h1; exact absurd h1 (by decide)
  refine ⟨by omega, ?_⟩
  simp only [isAsciiSpace, Bool.or_eq_false_iff, Bool.and_eq_false_iff, decide_eq_false_iff_not, Nat.not_le]
  exact ⟨by omega, h32⟩

theorem valOf_dot : B64.valOf 46 = none := by decide

theorem splitDots_ne_nil (s : Bytes) : splitDots s ≠ [] := by
  cases s with
  | nil => simp [splitDots]
  | cons b rest =>
    unfold splitDots
    split
    · simp
    · split <;> simp

theorem splitDots_nodot (a : Bytes) (h : (46 : UInt8) ∉ a) : splitDots a = [a] := by
  induction a with
  | nil => rfl
  | cons x rest ih =>
    have hx : x ≠ 46 := fun e => h (e ▸ List.mem_cons_self ..)
    have hr : (46 : UInt8) ∉ rest := fun e => h (List.mem_cons_of_mem _ e)
    unfold splitDots
    rw [ih hr]
    simp [hx]

theorem splitDots_append (a b : Bytes) (h : (46 : UInt8) ∉ a) : splitDots (a ++ 46 :: b) = a :: splitDots b := by
  induction a with
  | nil =>
    simp only [List.nil_append]
    rw [splitDots]
    cases hb : splitDots b with
    | nil => exact absurd hb (splitDots_ne_nil b)
    | cons p ps => simp
  | cons x rest ih =>
    have hx : x ≠ 46 := fun e => h (e ▸ List.mem_cons_self ..)
    have hr : (46 : UInt8) ∉ rest := fun e => h (List.mem_cons_of_mem _ e)
    simp only [List.cons_append]
    rw [splitDots, ih hr]
    simp [hx]

theorem trimPad_nopad (s : Bytes) (h : (61 : UInt8) ∉ s) : trimPad s = s := by
  unfold trimPad
  have : s.reverse.dropWhile (· = 61) = s.reverse := by
    cases hs : s.reverse with
    | nil => rfl
    | cons x xs =>
      have hx : x ∈ s := by
        rw [← List.mem_reverse, hs]; exact List.mem_cons_self ..
      have hne : x ≠ 61 := fun e => h (e ▸ hx)
      simp [List.dropWhile, hne]
  rw [this, List.reverse_reverse]

theorem base64URLDecode_encode (b : Bytes) : base64URLDecode (B64.encode b) = some b := by
  unfold base64URLDecode
  rw [trimPad_nopad _ (B64.not_mem_encode b B64.valOf_pad), B64.decode_encode]

theorem stripLoop_plain (s : Bytes) (h : ∀ b ∈ s, b.toNat < 0x80 ∧ isAsciiSpace b = false) :
    ∀ fuel, s.length < fuel → stripLoop fuel s = s := by
  induction s with
  | nil =>
    intro fuel hf
    cases fuel with
    | zero => rfl
    | succ n => rfl
  | cons b rest ih =>
    intro fuel hf
    cases fuel with
    | zero => simp at hf
    | succ n =>
      obtain ⟨h1, h2⟩ := h b (List.mem_cons_self ..)
      have hrest := ih (fun x hx => h x (List.mem_cons_of_mem _ hx)) n (by simp only [List.length_cons] at hf; omega)
      simp only [stripLoop, h1, if_true, h2, Bool.false_eq_true, if_false, hrest]

/-- the canonical token: plain ASCII, and its first byte is not '{' -/
theorem token_plain (hdr payload sig : Bytes) :
    ∀ b ∈ B64.encode hdr ++ [46] ++ B64.encode payload ++ [46] ++ B64.encode sig, b.toNat < 0x80 ∧ isAsciiSpace b = false := by
  intro b hb
  simp only [List.mem_append, List.mem_cons, List.not_mem_nil, or_false] at hb
  rcases hb with (((hb | rfl) | hb) | rfl) | hb
  · exact encode_plain _ _ hb
  · decide
  · exact encode_plain _ _ hb
  · decide
  · exact encode_plain _ _ hb

theorem parse_of_plain (s : Bytes) (hs : stripWhitespace s = s) (h123 : ∀ r, s ≠ 123 :: r) : parse s = parseCompact s := by
  unfold parse
  -- the matcher's second equation applies; its side condition `∀ r, s = 123 :: r → False` is discharged from `h123`
  simp only [hs]

theorem parse_ok_parts (raw : Bytes) (c : Compact) (h : parse raw = .ok c) :
    ∃ p0 p1 p2 hd, splitDots (stripWhitespace raw) = [p0, p1, p2] ∧
      base64URLDecode p0 = some c.protectedBytes ∧ base64URLDecode p1 = some c.payload ∧ base64URLDecode p2 = some c.signature ∧
      (if c.protectedBytes = [] then hd = ({} : Header) else header c.protectedBytes = some hd) ∧
      hd.hasJwk = false ∧ c.alg = hd.alg ∧ c.x5c = hd.x5c ∧
      c.verifiable = (decide (c.protectedBytes ≠ []) && hd.critOK) ∧
      c.signingInput = signingInputOf c.protectedBytes c.payload hd.b64 := by
  revert h
  fun_cases parse raw <;> intro h
  · cases h
  revert h
  fun_cases parseCompact (stripWhitespace raw) <;> intro h
  · cases h
  · cases h
  · rename_i p0 p1 p2 hsp prot payload sig h2 h1 h0 hd hhd hj
    cases h
    refine ⟨p0, p1, p2, hd, hsp, h0, h1, h2, ?_, by simpa using hj, rfl, rfl, rfl, rfl⟩
    by_cases hp : prot = []
    · rw [if_pos hp] at hhd ⊢; exact (Option.some.inj hhd).symm
    · rw [if_neg hp] at hhd ⊢; exact hhd
  · cases h
  · cases h

theorem signingInput_eq (prot payload : Bytes) :
    signingInputOf prot payload true = B64.encode prot ++ [46] ++ B64.encode payload ∧
    signingInputOf prot payload false = B64.encode prot ++ [46] ++ payload :=
  ⟨rfl, rfl⟩

/-- the message go-jose verifies determines the protected header bytes and the payload -/
theorem signingInput_inj (p q p' q' : Bytes) (b : Bool) (h : signingInputOf p q b = signingInputOf p' q' b) : p = p' ∧ q = q' := by
  unfold signingInputOf at h
  simp only [List.append_assoc, List.cons_append, List.nil_append] at h
  -- the first dot-separated part of both sides
  have h1 := congrArg splitDots h
  rw [splitDots_append _ _ (B64.not_mem_encode p valOf_dot), splitDots_append _ _ (B64.not_mem_encode p' valOf_dot)] at h1
  have h1 := (List.cons.inj h1).1
  rw [h1] at h
  have h2 := List.cons.inj (List.append_cancel_left h)
  refine ⟨B64.encode_injective _ _ h1, ?_⟩
  cases b with
  | true => exact B64.encode_injective _ _ (by simpa using h2.2)
  | false => simpa using h2.2

/-- whitespace stripping leaves non-space ASCII alone -/
theorem strip_plain (s : Bytes) (h : ∀ b ∈ s, b.toNat < 0x80 ∧ isAsciiSpace b = false) : stripWhitespace s = s :=
  stripLoop_plain s h _ (Nat.lt_succ_self _)

/-- the canonical serialisation of (header bytes, payload, signature) parses back to exactly these parts -/
theorem parseCompact_honest (hdr payload sig : Bytes) (hd : Header)
    (hh : if hdr = [] then hd = ({} : Header) else header hdr = some hd) (hj : hd.hasJwk = false) :
    parseCompact (B64.encode hdr ++ [46] ++ B64.encode payload ++ [46] ++ B64.encode sig) =
      .ok { protectedBytes := hdr, payload := payload, signature := sig,
            signingInput := signingInputOf hdr payload hd.b64, alg := hd.alg, x5c := hd.x5c,
            verifiable := decide (hdr ≠ []) && hd.critOK } := by
  have hsp : splitDots (B64.encode hdr ++ [46] ++ B64.encode payload ++ [46] ++ B64.encode sig) =
      [B64.encode hdr, B64.encode payload, B64.encode sig] := by
    simp only [List.append_assoc, List.cons_append, List.nil_append]
    rw [splitDots_append _ _ (B64.not_mem_encode hdr valOf_dot), splitDots_append _ _ (B64.not_mem_encode payload valOf_dot),
      splitDots_nodot _ (B64.not_mem_encode sig valOf_dot)]
  have hhd : (if hdr = [] then some ({} : Header) else header hdr) = some hd := by
    by_cases hp : hdr = []
    · rw [if_pos hp] at hh ⊢; rw [hh]
    · rw [if_neg hp] at hh ⊢; exact hh
  unfold parseCompact
  rw [hsp]
  simp only [base64URLDecode_encode, hhd, hj, Bool.false_eq_true, if_false]

/-- and so does `parse` (the token has no whitespace and does not start with '{') -/
theorem parse_honest (hdr payload sig : Bytes) (hd : Header)
    (hh : if hdr = [] then hd = ({} : Header) else header hdr = some hd) (hj : hd.hasJwk = false) :
    parse (B64.encode hdr ++ [46] ++ B64.encode payload ++ [46] ++ B64.encode sig) =
      parseCompact (B64.encode hdr ++ [46] ++ B64.encode payload ++ [46] ++ B64.encode sig) := by
  apply parse_of_plain _ (strip_plain _ (token_plain hdr payload sig))
  intro r e
  simp only [List.append_assoc, List.cons_append, List.nil_append] at e
  cases he : B64.encode hdr with
  | nil => rw [he] at e; simp at e
  | cons x xs =>
    rw [he] at e
    simp only [List.cons_append, List.cons.injEq] at e
    exact B64.not_mem_encode hdr (c := 123) (by decide) (by rw [he, e.1]; exact List.mem_cons_self ..)

theorem claims_null : claims (Bytes.ofString "null") = some [] := by
  decide +kernel

theorem claims_empty_object : claims (Bytes.ofString "{}") = some [] := by
  decide +kernel

/-- a SafetyNet-like payload: the nonce is the standard-base64 decoding of the member, other members are type-checked -/
theorem claims_example :
    claims (Bytes.ofString "{\"nonce\":\"AQID\",\"timestampMs\":1700000000000,\"ctsProfileMatch\":true,\"apkCertificateDigestSha256\":[\"AA==\"],\"extra\":{\"a\":1,\"a\":2}}") = some [1, 2, 3] ∧
    claims (Bytes.ofString "{\"nonce\":\"AQID\",\"nonce\":\"AQID\"}") = none ∧
    claims (Bytes.ofString "{\"Nonce\":\"AQID\"}") = some [] ∧
    claims (Bytes.ofString "{\"nonce\":\"AQID\",\"timestampMs\":\"1\"}") = none ∧
    claims (Bytes.ofString "{\"nonce\":\"AQI\"}") = none := by
  decide +kernel

/-! ### which primitive checks the signature (Model/JwsVerify.lean: go-jose's `newVerifier` + `verifyPayload`) -/

/-- RSA keys: RS256/384/512 are RSASSA-PKCS1-v1_5 and PS256/384/512 RSASSA-PSS, with SHA-256/384/512, over the signature bytes as they are;
    every other algorithm name is refused -/
theorem verifyPlan_rsa (n : Bytes) (e : Nat) (alg sig : Bytes) :
    verifyPlan alg (.rsa n e) sig =
      if alg = str "RS256" then .primitive .pkcs1 5 sig else if alg = str "RS384" then .primitive .pkcs1 6 sig
      else if alg = str "RS512" then .primitive .pkcs1 7 sig else if alg = str "PS256" then .primitive .pss 5 sig
      else if alg = str "PS384" then .primitive .pss 6 sig else if alg = str "PS512" then .primitive .pss 7 sig else .reject := by
  rfl

/-- EC keys (whatever their curve): ES256/384/512 want exactly 64 / 96 / 132 bytes r ‖ s and use SHA-256/384/512; everything else is refused -/
theorem verifyPlan_ec (crv : Nat) (x y alg sig : Bytes) :
    verifyPlan alg (.ec crv x y) sig =
      if alg = str "ES256" then (if sig.length = 64 then .primitive .ecdsa 5 (derOfRS (sig.take 32) (sig.drop 32)) else .reject)
      else if alg = str "ES384" then (if sig.length = 96 then .primitive .ecdsa 6 (derOfRS (sig.take 48) (sig.drop 48)) else .reject)
      else if alg = str "ES512" then (if sig.length = 132 then .primitive .ecdsa 7 (derOfRS (sig.take 66) (sig.drop 66)) else .reject)
      else .reject := by
  simp only [verifyPlan, ecPlan, ecPlanFor, hSHA256, hSHA384, hSHA512]

theorem verifyPlan_ed (k alg sig : Bytes) :
    verifyPlan alg (.ed k) sig = if alg = str "EdDSA" then .primitive .eddsa 0 sig else .reject := by
  rfl

/-- only the ten names go-jose knows for these key kinds can be accepted -/
theorem verifyPlan_unknown (alg : Bytes) (key : KeyMat) (sig : Bytes) (hk : key ≠ .other)
    (h : alg ∉ [str "RS256", str "RS384", str "RS512", str "PS256", str "PS384", str "PS512", str "ES256", str "ES384",
      str "ES512", str "EdDSA"]) : verifyPlan alg key sig = .reject := by
  simp only [List.mem_cons, List.not_mem_nil, or_false, not_or] at h
  obtain ⟨a1, a2, a3, a4, a5, a6, a7, a8, a9, a10⟩ := h
  cases key with
  | rsa n e => simp only [verifyPlan, rsaPlan, if_neg a1, if_neg a2, if_neg a3, if_neg a4, if_neg a5, if_neg a6]
  | ec crv x y => simp only [verifyPlan, ecPlan, if_neg a7, if_neg a8, if_neg a9]
  | ed k => simp only [verifyPlan, if_neg a10]
  | other => exact absurd rfl hk

/-- a token without an algorithm the key kind supports is never accepted: in particular "none", "HS256" and the empty name -/
theorem verifyPlan_no_alg (key : KeyMat) (sig : Bytes) (hk : key ≠ .other) :
    verifyPlan (str "none") key sig = .reject ∧ verifyPlan (str "HS256") key sig = .reject ∧ verifyPlan [] key sig = .reject :=
  ⟨verifyPlan_unknown _ key sig hk (by decide +kernel), verifyPlan_unknown _ key sig hk (by decide +kernel),
    verifyPlan_unknown _ key sig hk (by decide +kernel)⟩

/-- the DER INTEGER contents written for r and s denote the same number and are minimal and non-negative -/
theorem derMagnitude_value (b : Bytes) : Bytes.beNat (derMagnitude b) = Bytes.beNat b := by
  have hd : ∀ l : Bytes, Bytes.beNat (l.dropWhile (· = 0)) = Bytes.beNat l := by
    intro l
    induction l with
    | nil => rfl
    | cons x xs ih =>
      by_cases hx : x = 0
      · subst hx
        rw [List.dropWhile_cons_of_pos (by simp), ih, Bytes.beNat_cons]
        simp
      · rw [List.dropWhile_cons_of_neg (by simpa using hx)]
  rw [← hd b]
  unfold derMagnitude
  split
  · next h => rw [h]; rfl
  · next x rest h =>
    rw [h]
    split
    · rw [Bytes.beNat_cons]; simp
    · rfl

theorem derMagnitude_minimal (b : Bytes) :
    ∃ x rest, derMagnitude b = x :: rest ∧ x.toNat < 128 ∧ (x = 0 → rest = [] ∨ ∃ y r, rest = y :: r ∧ y.toNat ≥ 128) := by
  unfold derMagnitude
  split
  · exact ⟨0, [], rfl, by decide, fun _ => Or.inl rfl⟩
  · next x rest h =>
    have hx : x ≠ 0 := by
      intro h0
      have := List.head_dropWhile_not (p := fun y : UInt8 => decide (y = 0)) (l := b) (by rw [h]; simp)
      simp [h, h0] at this
    by_cases hge : x.toNat ≥ 128
    · rw [if_pos hge]
      exact ⟨0, x :: rest, rfl, by decide, fun _ => Or.inr ⟨x, rest, rfl, hge⟩⟩
    · rw [if_neg hge]
      exact ⟨x, rest, rfl, by omega, fun h0 => absurd h0 hx⟩

theorem derOfRS_example :
    derOfRS [0, 0, 1] [0x80] = [0x30, 0x07, 0x02, 0x01, 0x01, 0x02, 0x02, 0x00, 0x80] ∧ derOfRS [] [0] = [0x30, 0x06, 0x02, 0x01, 0x00, 0x02, 0x01, 0x00] := by
  constructor <;> decide +kernel


/-- the SafetyNet claims structure `Model/Jws.lean` `claims` transcribes, regenerated from `android/safetynet.go` on every run:
    field, Go type, json member name -/
theorem claims_schema : Generated.Android.safetyNetClaimsFields =
    [("TimestampMS", "int", "timestampMs"), ("Nonce", "[]byte", "nonce"), ("APKPackageName", "string", "apkPackageName"),
     ("APKCertificateDigestSHA256", "[][]byte", "apkCertificateDigestSha256"), ("CTSProfileMatch", "bool", "ctsProfileMatch"),
     ("BasicIntegrity", "bool", "basicIntegrity"), ("EvaluationType", "string", "evaluationType")] :=
  rfl

end WebAuthn.C04Jws
