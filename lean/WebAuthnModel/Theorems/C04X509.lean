import WebAuthnModel.Model.X509Sig
import WebAuthnModel.Theorems.C12
/-
  C04 (certificate signature check) — the table `X509Sig.checkPlan` itself: which primitive crypto/x509's `CheckSignature`
  selects for each (signature algorithm id, kind of the certificate's key), which pairs it refuses, and which primitive the
  verifiers' COSE algorithm → X.509 algorithm table (`Cose.algX509`, regenerated in Generated/Cose.lean) leads to.
-/
namespace WebAuthn.C04X509
open WebAuthn

/-- an RSA key: PKCS #1 v1.5 for SHA1/256/384/512WithRSA, PSS (salt length = hash length) for SHA256/384/512WithRSAPSS, nothing else -/
theorem checkPlan_rsa (n : Bytes) (e : Nat) (algo : Nat) (sig : Bytes) :
    X509Sig.checkPlan algo (.rsa n e) sig =
      if algo = 3 then .primitive .pkcs1 3 sig
      else if algo = 4 then .primitive .pkcs1 5 sig
      else if algo = 5 then .primitive .pkcs1 6 sig
      else if algo = 6 then .primitive .pkcs1 7 sig
      else if algo = 13 then .primitive .pssEq 5 sig
      else if algo = 14 then .primitive .pssEq 6 sig
      else if algo = 15 then .primitive .pssEq 7 sig
      else .reject := by
  by_cases h : algo ∈ [3, 4, 5, 6, 9, 10, 11, 12, 13, 14, 15, 16]
  · simp only [List.mem_cons, List.not_mem_nil, or_false] at h
    rcases h with rfl | rfl | rfl | rfl | rfl | rfl | rfl | rfl | rfl | rfl | rfl | rfl <;> rfl
  · simp only [List.mem_cons, List.not_mem_nil, or_false, not_or] at h
    simp only [X509Sig.checkPlan, X509Sig.details, h, if_false]

/-- an EC key: ECDSA over SHA-1/256/384/512 for ECDSAWithSHA1/256/384/512, nothing else -/
theorem checkPlan_ec (crv : Nat) (x y : Bytes) (algo : Nat) (sig : Bytes) :
    X509Sig.checkPlan algo (.ec crv x y) sig =
      if algo = 9 then .primitive .ecdsa 3 sig
      else if algo = 10 then .primitive .ecdsa 5 sig
      else if algo = 11 then .primitive .ecdsa 6 sig
      else if algo = 12 then .primitive .ecdsa 7 sig
      else .reject := by
  by_cases h : algo ∈ [3, 4, 5, 6, 9, 10, 11, 12, 13, 14, 15, 16]
  · simp only [List.mem_cons, List.not_mem_nil, or_false] at h
    rcases h with rfl | rfl | rfl | rfl | rfl | rfl | rfl | rfl | rfl | rfl | rfl | rfl <;> rfl
  · simp only [List.mem_cons, List.not_mem_nil, or_false, not_or] at h
    simp only [X509Sig.checkPlan, X509Sig.details, h, if_false]

/-- an Ed25519 key: Ed25519 over the message for PureEd25519, nothing else -/
theorem checkPlan_ed (k : Bytes) (algo : Nat) (sig : Bytes) :
    X509Sig.checkPlan algo (.ed k) sig = if algo = 16 then .primitive .eddsa 0 sig else .reject := by
  by_cases h : algo ∈ [3, 4, 5, 6, 9, 10, 11, 12, 13, 14, 15, 16]
  · simp only [List.mem_cons, List.not_mem_nil, or_false] at h
    rcases h with rfl | rfl | rfl | rfl | rfl | rfl | rfl | rfl | rfl | rfl | rfl | rfl <;> rfl
  · simp only [List.mem_cons, List.not_mem_nil, or_false, not_or] at h
    simp only [X509Sig.checkPlan, X509Sig.details, h, if_false]

theorem details_unknown (algo : Nat) (ha : algo = 0 ∨ algo = 1 ∨ algo = 2 ∨ algo = 7 ∨ algo = 8 ∨ 17 ≤ algo) :
    X509Sig.details algo = none := by
  have h : algo ∉ [3, 4, 5, 6, 9, 10, 11, 12, 13, 14, 15, 16] := by
    simp only [List.mem_cons, List.not_mem_nil, or_false]; omega
  simp only [List.mem_cons, List.not_mem_nil, or_false, not_or] at h
  simp only [X509Sig.details, h, if_false]

/-- no entry (0 unknown, 1 MD2WithRSA, 2 MD5WithRSA, 7–8 DSA, anything from 17 on): refused for every key the view describes -/
theorem checkPlan_unknown (key : KeyMat) (sig : Bytes) (hk : key ≠ .other) (algo : Nat)
    (ha : algo = 0 ∨ algo = 1 ∨ algo = 2 ∨ algo = 7 ∨ algo = 8 ∨ 17 ≤ algo) :
    X509Sig.checkPlan algo key sig = .reject := by
  cases key with
  | other => exact absurd rfl hk
  | _ => simp only [X509Sig.checkPlan, details_unknown algo ha]

/-- the eleven COSE algorithms: the verifier's X.509 algorithm and a certificate key of the matching kind select the expected primitive -/
theorem cose_alg_primitive :
    (∀ crv x y sig, X509Sig.checkPlan (Cose.algX509 (-7)) (.ec crv x y) sig = .primitive .ecdsa 5 sig) ∧
    (∀ crv x y sig, X509Sig.checkPlan (Cose.algX509 (-35)) (.ec crv x y) sig = .primitive .ecdsa 6 sig) ∧
    (∀ crv x y sig, X509Sig.checkPlan (Cose.algX509 (-36)) (.ec crv x y) sig = .primitive .ecdsa 7 sig) ∧
    (∀ n e sig, X509Sig.checkPlan (Cose.algX509 (-65535)) (.rsa n e) sig = .primitive .pkcs1 3 sig) ∧
    (∀ n e sig, X509Sig.checkPlan (Cose.algX509 (-257)) (.rsa n e) sig = .primitive .pkcs1 5 sig) ∧
    (∀ n e sig, X509Sig.checkPlan (Cose.algX509 (-258)) (.rsa n e) sig = .primitive .pkcs1 6 sig) ∧
    (∀ n e sig, X509Sig.checkPlan (Cose.algX509 (-259)) (.rsa n e) sig = .primitive .pkcs1 7 sig) ∧
    (∀ n e sig, X509Sig.checkPlan (Cose.algX509 (-37)) (.rsa n e) sig = .primitive .pssEq 5 sig) ∧
    (∀ n e sig, X509Sig.checkPlan (Cose.algX509 (-38)) (.rsa n e) sig = .primitive .pssEq 6 sig) ∧
    (∀ n e sig, X509Sig.checkPlan (Cose.algX509 (-39)) (.rsa n e) sig = .primitive .pssEq 7 sig) ∧
    (∀ k sig, X509Sig.checkPlan (Cose.algX509 (-8)) (.ed k) sig = .primitive .eddsa 0 sig) := by
  simp only [C12.algX509_spec]
  refine ⟨?_, ?_, ?_, ?_, ?_, ?_, ?_, ?_, ?_, ?_, ?_⟩ <;> intros <;> rfl

end WebAuthn.C04X509
