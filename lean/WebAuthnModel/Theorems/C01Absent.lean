import WebAuthnModel.Theorems.C01
import WebAuthnModel.Theorems.C02
import WebAuthnModel.Proofs.Base64
/-
  C01 / C02 — client data that does not SAY something is refused.

  `type`, `challenge` and `origin` are members of a JSON object; a document may leave one out, or write `null` for it.  What the ceremony
  compares is then the empty string (the zero value of the Go member: `encoding/json` does not touch a member the document does not name, and
  `null` leaves it as it is) — never a value from anywhere else, such as what an earlier ceremony decoded.  Stated here for every document,
  every environment, options, response and storage: such a document is refused by both ceremonies (for the challenge: unless the options'
  challenge is itself empty, in which case the empty text is the right one).
-/
namespace WebAuthn.C01Absent
open WebAuthn Json

/-- the document does not give `field` a value: no member name spells it (names match case-insensitively, after unescaping), or every
    such member is `null` -/
def Absent (kvs : List (Bytes × JVal)) (field : String) : Prop := ∀ kv ∈ kvs, nameIs kv.1 field = false ∨ kv.2 = .null

theorem storeString_null (cur : Bytes) : storeString cur .null = (cur, true) := rfl

theorem storeMembers_type_absent (f : ClientDataFields) (ok : Bool) (kvs : List (Bytes × JVal)) (h : Absent kvs "type") :
    (storeMembers f ok kvs).1.type = f.type := by
  induction kvs generalizing f ok with
  | nil => rfl
  | cons kv rest ih =>
    obtain ⟨k, v⟩ := kv
    obtain ⟨hk, hrest⟩ := List.forall_mem_cons.1 h
    obtain hk | hk : nameIs k "type" = false ∨ v = .null := hk <;>
      simp only [storeMembers, hk, storeString_null, apply_ite (fun r : ClientDataFields × Bool => r.1.type),
        ih _ _ hrest, ite_self, Bool.false_eq_true, ↓reduceIte]

theorem storeMembers_challenge_absent (f : ClientDataFields) (ok : Bool) (kvs : List (Bytes × JVal)) (h : Absent kvs "challenge") :
    (storeMembers f ok kvs).1.challenge = f.challenge := by
  induction kvs generalizing f ok with
  | nil => rfl
  | cons kv rest ih =>
    obtain ⟨k, v⟩ := kv
    obtain ⟨hk, hrest⟩ := List.forall_mem_cons.1 h
    obtain hk | hk : nameIs k "challenge" = false ∨ v = .null := hk <;>
      simp only [storeMembers, hk, storeString_null, apply_ite (fun r : ClientDataFields × Bool => r.1.challenge),
        ih _ _ hrest, ite_self, Bool.false_eq_true, ↓reduceIte]

theorem storeMembers_origin_absent (f : ClientDataFields) (ok : Bool) (kvs : List (Bytes × JVal)) (h : Absent kvs "origin") :
    (storeMembers f ok kvs).1.origin = f.origin := by
  induction kvs generalizing f ok with
  | nil => rfl
  | cons kv rest ih =>
    obtain ⟨k, v⟩ := kv
    obtain ⟨hk, hrest⟩ := List.forall_mem_cons.1 h
    obtain hk | hk : nameIs k "origin" = false ∨ v = .null := hk <;>
      simp only [storeMembers, hk, storeString_null, apply_ite (fun r : ClientDataFields × Bool => r.1.origin),
        ih _ _ hrest, ite_self, Bool.false_eq_true, ↓reduceIte]

/-- what the decoded client data holds for a member the document does not give a value: the empty string -/
theorem clientData_absent (raw : Bytes) (kvs : List (Bytes × JVal)) (f : ClientDataFields)
    (hp : parse raw = some (.obj kvs)) (h : clientData raw = some f) :
    (Absent kvs "type" → f.type = []) ∧ (Absent kvs "challenge" → f.challenge = []) ∧ (Absent kvs "origin" → f.origin = []) := by
  unfold clientData at h
  rw [hp] at h
  simp only at h
  split at h
  · cases h
    exact ⟨fun ha => storeMembers_type_absent {} true kvs ha, fun ha => storeMembers_challenge_absent {} true kvs ha,
      fun ha => storeMembers_origin_absent {} true kvs ha⟩
  · cases h

theorem type_get_ne_nil : Spec.str "webauthn.get" ≠ [] := by decide +kernel
theorem type_create_ne_nil : Spec.str "webauthn.create" ≠ [] := by decide +kernel
/-- the empty origin has the empty host -/
theorem hostOf_nil : Url.hostOf [] = some [] := by decide +kernel

theorem encode_ne_nil (b : Bytes) (h : b ≠ []) : B64.encode b ≠ [] := by
  intro he
  have hl := B64.encode_length b
  rw [he] at hl
  cases b with
  | nil => exact h rfl
  | cons x xs => simp at hl; omega

theorem originOK_nil (env : Prog.Env) (rpOrigin : Bytes) : ¬ Spec.OriginOK env [] rpOrigin := by
  rintro ⟨ch, rh, h1, _, hne, h2⟩
  rw [hostOf_nil] at h1
  cases h1
  rcases h2 with h2 | ⟨p, h2⟩
  · exact hne h2.symm
  · cases p <;> cases h2

/-- the three conditions on client data cannot hold of a document that leaves one of the members out -/
theorem conditions_fail (env : Prog.Env) (raw : Bytes) (kvs : List (Bytes × JVal)) (ty challenge rpOrigin : Bytes)
    (hp : parse raw = some (.obj kvs)) (hty : ty ≠ [])
    (h : Absent kvs "type" ∨ (Absent kvs "challenge" ∧ challenge ≠ []) ∨ Absent kvs "origin") :
    ¬ ∃ cd, clientData raw = some cd ∧ cd.type = ty ∧ cd.challenge = B64.encode challenge ∧ Spec.OriginOK env cd.origin rpOrigin := by
  rintro ⟨cd, hcd, h1, h2, h3⟩
  obtain ⟨a1, a2, a3⟩ := clientData_absent raw kvs cd hp hcd
  rcases h with h | ⟨h, hne⟩ | h
  · rw [a1 h] at h1; exact hty h1.symm
  · rw [a2 h] at h2; exact encode_ne_nil challenge hne h2.symm
  · rw [a3 h] at h3; exact originOK_nil env rpOrigin h3

/-- C01: an assertion whose client data leaves out (or nulls) `type`, `origin`, or — for a non-empty challenge — `challenge` is refused,
    whatever else holds -/
theorem auth_reject_absent_member (env : Prog.Env) (rp : RP) (o : RequestOptions) (a : Assertion) (get : Bytes → GetOutcome)
    (kvs : List (Bytes × JVal)) (hp : parse a.clientDataJSON = some (.obj kvs))
    (h : Absent kvs "type" ∨ (Absent kvs "challenge" ∧ o.challenge ≠ []) ∨ Absent kvs "origin") :
    ∀ cred, (Prog.run env (verifyAuthentication rp o a get)).result ≠ .ok cred := by
  intro cred hok
  have := ((C01.auth_iff env rp o a get cred).mp hok).clientData
  exact conditions_fail env a.clientDataJSON kvs _ o.challenge rp.origin hp type_get_ne_nil h this

/-- C02: the same for registration -/
theorem reg_reject_absent_member (env : Prog.Env) (rp : RP) (o : CreationOptions) (c : Attestation) (opts : List VerifyOption)
    (get : Bytes → GetOutcome) (set : Credential → SetOutcome)
    (kvs : List (Bytes × JVal)) (hp : parse c.clientDataJSON = some (.obj kvs))
    (h : Absent kvs "type" ∨ (Absent kvs "challenge" ∧ o.challenge ≠ []) ∨ Absent kvs "origin") :
    ∀ cred, (Prog.run env (verifyRegistration rp o c opts get set)).result ≠ .ok cred := by
  intro cred hok
  obtain ⟨id, key, hpre, _⟩ := (C02.reg_iff env rp o c opts get set cred).mp hok
  exact conditions_fail env c.clientDataJSON kvs _ o.challenge rp.origin hp type_create_ne_nil h hpre.clientData

/-! ### non-vacuity: documents that parse and leave a member out, in each of the two ways -/

def lit (s : String) : Bytes := s.toUTF8.toList

/-- `Absent`, computed -/
def absentB (kvs : List (Bytes × JVal)) (field : String) : Bool :=
  kvs.all (fun kv => !nameIs kv.1 field || (match kv.2 with | .null => true | _ => false))

theorem absent_of_absentB (kvs : List (Bytes × JVal)) (field : String) (h : absentB kvs field = true) : Absent kvs field := by
  intro kv hkv
  have := List.all_eq_true.1 h kv hkv
  simp only [Bool.or_eq_true, Bool.not_eq_true'] at this
  rcases this with h1 | h1
  · exact Or.inl h1
  · right
    split at h1
    · assumption
    · cases h1

/-- the hypotheses of the two rejection theorems are met by real documents: `origin` not written at all; `type` written as `null` -/
theorem absent_examples :
    (match parse (lit "{\"type\":\"webauthn.get\",\"challenge\":\"YQ\"}") with
      | some (.obj kvs) => absentB kvs "origin" && !absentB kvs "type" | _ => false) = true ∧
    (match parse (lit "{\"type\":null,\"challenge\":\"YQ\",\"origin\":\"https://h\"}") with
      | some (.obj kvs) => absentB kvs "type" && !absentB kvs "origin" | _ => false) = true := by
  decide +kernel

end WebAuthn.C01Absent
