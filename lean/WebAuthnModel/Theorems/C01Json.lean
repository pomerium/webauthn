import WebAuthnModel.Model.Json
import WebAuthnModel.Proofs.JsonLemmas
/-
  C01 / C02, client data — what `json.Unmarshal(clientDataJSON, &CollectedClientData)` (Model/Json.lean, compared with
  encoding/json through the repository's UnmarshalClientData on every run) returns on the documents clients write, and a few
  facts about documents they do not.
-/
namespace WebAuthn.Theorems.C01Json
open WebAuthn.Json

/-- printable ASCII without `"` and `\`: what base64url challenges, type constants and origins consist of -/
def plainChar (b : UInt8) : Bool := 0x20 ≤ b.toNat && b.toNat < 0x7f && b ≠ c '"' && b ≠ c '\\'
def Plain (s : Bytes) : Prop := s.all plainChar = true

def quote (s : Bytes) : Bytes := c '"' :: s ++ [c '"']
def member (k : String) (v : Bytes) : Bytes := quote k.toUTF8.toList ++ [c ':'] ++ v

def joinComma : List Bytes → Bytes
  | [] => []
  | [m] => m
  | m :: ms => m ++ c ',' :: joinComma ms

def renderObj (ms : List Bytes) : Bytes := c '{' :: joinComma ms ++ [c '}']

/-- the renderer of this file and the one the parser lemmas are stated for agree -/
theorem joinComma_render (l : List Lemmas.Mem) (hne : l ≠ []) :
    joinComma (l.map Lemmas.Mem.render) ++ [c '}'] = Lemmas.renderMembers l [] := by
  induction l with
  | nil => exact absurd rfl hne
  | cons m l ih =>
    cases l with
    | nil => rfl
    | cons m' l' =>
      have := ih (by simp)
      simp only [List.map_cons, joinComma, Lemmas.renderMembers, List.append_assoc, List.cons_append] at this ⊢
      rw [this]

/-- the document every client writes, members in any order, with or without `crossOrigin` -/
theorem clientData_canonical (t ch o : Bytes) (ht : Plain t) (hc : Plain ch) (ho : Plain o) (ms : List Bytes)
    (hperm : ms.Perm [member "type" (quote t), member "challenge" (quote ch), member "origin" (quote o)] ∨
             ms.Perm [member "type" (quote t), member "challenge" (quote ch), member "origin" (quote o), member "crossOrigin" "false".toUTF8.toList] ∨
             ms.Perm [member "type" (quote t), member "challenge" (quote ch), member "origin" (quote o), member "crossOrigin" "true".toUTF8.toList]) :
    clientData (renderObj ms) = some ⟨t, ch, o⟩ := by
  have key : ∀ X : List Bool,
      ms.Perm ((Lemmas.mStr "type" t :: Lemmas.mStr "challenge" ch :: Lemmas.mStr "origin" o ::
        X.map Lemmas.mCross).map Lemmas.Mem.render) → clientData (renderObj ms) = some ⟨t, ch, o⟩ := by
    intro X hp
    obtain ⟨l, hl, rfl⟩ := Lemmas.perm_map_exists _ _ _ hp
    have hne : l ≠ [] := fun h => by simpa [h] using hl.length_eq
    rw [renderObj, List.cons_append, joinComma_render l hne]
    exact Lemmas.clientData_members t ch o ht hc ho l X hl
  rcases hperm with h | h | h
  · exact key [] h
  · exact key [false] h
  · exact key [true] h

/-- plain strings are returned as they stand -/
theorem unq_plain (s : Bytes) (h : Plain s) : unq s = s := Lemmas.unq_plain s h

def lit (s : String) : Bytes := s.toUTF8.toList

/-- concrete documents, evaluated in the kernel: member names match case-insensitively and a later duplicate wins; `null`
    decodes to the zero value; a member of the wrong JSON type, a non-object, trailing data, and invalid syntax are errors;
    escapes are resolved, lone surrogates and invalid UTF-8 become U+FFFD -/
theorem concrete_documents :
    clientData (lit "{\"type\":\"webauthn.get\",\"challenge\":\"YQ\",\"origin\":\"https://example.com\"}") =
      some ⟨lit "webauthn.get", lit "YQ", lit "https://example.com"⟩ ∧
    clientData (lit " {\"origin\" : \"https://example.com\",\n\"challenge\":\"YQ\", \"type\":\"webauthn.get\" , \"extra\":[1,{\"a\":null}]} ") =
      some ⟨lit "webauthn.get", lit "YQ", lit "https://example.com"⟩ ∧
    clientData (lit "{\"type\":\"webauthn.get\",\"TYPE\":\"webauthn.create\"}") = some ⟨lit "webauthn.create", [], []⟩ ∧
    clientData (lit "{\"type\":\"webauthn.get\",\"type\":null}") = some ⟨lit "webauthn.get", [], []⟩ ∧
    clientData (lit "{\"\\u0074ype\":\"web\\u0061uthn.get\"}") = some ⟨lit "webauthn.get", [], []⟩ ∧
    clientData (lit "{\"type\":\"\\ud83d\\ude00 \\ud83d x\"}") = some ⟨[0xF0, 0x9F, 0x98, 0x80, 0x20, 0xEF, 0xBF, 0xBD, 0x20, 0x78], [], []⟩ ∧
    clientData (lit "null") = some ⟨[], [], []⟩ ∧
    clientData (lit "{}") = some ⟨[], [], []⟩ ∧
    clientData (lit "{\"type\":1}") = none ∧
    clientData (lit "{\"crossOrigin\":\"false\"}") = none ∧
    clientData (lit "{\"tokenBinding\":{\"status\":true}}") = none ∧
    clientData (lit "{\"tokenBinding\":{\"status\":\"supported\",\"other\":[true]}}") = some ⟨[], [], []⟩ ∧
    clientData (lit "[]") = none ∧
    clientData (lit "\"webauthn.get\"") = none ∧
    clientData (lit "{\"type\":\"webauthn.get\"} x") = none ∧
    clientData (lit "{\"type\":\"webauthn.get\",}") = none ∧
    clientData (lit "{'type':'webauthn.get'}") = none ∧
    clientData (lit "") = none := by
  decide +kernel

end WebAuthn.Theorems.C01Json
