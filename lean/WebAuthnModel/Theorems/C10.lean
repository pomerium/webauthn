import WebAuthnModel.Spec.AuthData
import WebAuthnModel.Proofs.CborFrame
import WebAuthnModel.Proofs.BytesLemmas
/-
  C10 — the authenticator-data / attested-credential-data codec accepts exactly the WebAuthn layout,
  round-trips byte for byte, and rejects every truncation.
-/
namespace WebAuthn.C10
open WebAuthn
open WebAuthn.Generated.Core

/-! ## flags -/

/-- masking with a single bit and comparing with it tests that bit -/
theorem and_two_pow_eq (n k : Nat) : decide (n &&& 2 ^ k = 2 ^ k) = n.testBit k := by
  rw [Bool.eq_iff_iff, decide_eq_true_iff]
  constructor
  · intro h
    have := Nat.testBit_and n (2 ^ k) k
    rwa [h, Nat.testBit_two_pow_self, Bool.and_true, eq_comm] at this
  · intro h
    apply Nat.eq_of_testBit_eq
    intro i
    rw [Nat.testBit_and, Nat.testBit_two_pow]
    by_cases hi : k = i
    · subst hi; simp [h]
    · simp [hi]

/-- flag accessors test bits 0 / 2 / 6 / 7, for all 256 flag bytes -/
theorem flag_bits (f : UInt8) :
    flagsUP f = Spec.bit f 0 ∧ flagsUV f = Spec.bit f 2 ∧ flagsAT f = Spec.bit f 6 ∧ flagsED f = Spec.bit f 7 :=
  ⟨and_two_pow_eq _ 0, and_two_pow_eq _ 2, and_two_pow_eq _ 6, and_two_pow_eq _ 7⟩

/-! ## extractCBOR -/

theorem take_len_sub (p r : Bytes) : (p ++ r).take ((p ++ r).length - r.length) = p := by
  rw [List.length_append, Nat.add_sub_cancel]; exact List.take_left

/-- `extractCBOR` succeeds exactly on `i ++ r` where `i` is not empty and decodes, whatever follows it, to an acceptable
value -/
theorem extractCBOR_eq_some (b i r : Bytes) :
    extractCBOR b = some (i, r) ↔
      b = i ++ r ∧ i ≠ [] ∧ ∃ v, Cbor.acceptable v = true ∧ ∀ s, Cbor.decode (i ++ s) = some (v, s) := by
  constructor
  · intro h
    unfold extractCBOR at h
    cases hd : Cbor.decode b with
    | none => rw [hd] at h; cases h
    | some vr =>
      obtain ⟨v, r'⟩ := vr
      rw [hd] at h
      obtain ⟨p, hp, rfl, hfr⟩ := Cbor.decode_frame b v r' hd
      by_cases ha : Cbor.acceptable v = true
      · simp only [ha, if_true, take_len_sub] at h
        cases h
        exact ⟨rfl, hp, v, ha, hfr⟩
      · simp only [ha] at h
        cases h
  · rintro ⟨rfl, -, v, ha, hfr⟩
    unfold extractCBOR
    rw [hfr r]
    simp only [ha, if_true, take_len_sub]

/-- `extractCBOR` succeeds exactly on `item ++ rest` where `item` is exactly one item -/
theorem extractCBOR_iff (b i r : Bytes) :
    extractCBOR b = some (i, r) ↔ b = i ++ r ∧ Spec.OneItem i := by
  simp only [Spec.OneItem, extractCBOR_eq_some, List.append_nil, true_and]

theorem oneItem_ne_nil (i : Bytes) (h : Spec.OneItem i) : i ≠ [] :=
  ((extractCBOR_eq_some i i []).1 h).2.1

/-- extractCBOR splits its input: the item is a non-empty prefix, the remainder is the rest -/
theorem extractCBOR_split (b i r : Bytes) (h : extractCBOR b = some (i, r)) : b = i ++ r ∧ i ≠ [] := by
  obtain ⟨hb, h1⟩ := (extractCBOR_iff b i r).1 h
  exact ⟨hb, oneItem_ne_nil i h1⟩

/-- the result depends only on the consumed prefix -/
theorem extractCBOR_frame (b i r s : Bytes) (h : extractCBOR b = some (i, r)) :
    extractCBOR (i ++ s) = some (i, s) :=
  (extractCBOR_iff _ _ _).2 ⟨rfl, ((extractCBOR_iff b i r).1 h).2⟩

/-- so the item alone is "exactly one item" -/
theorem extractCBOR_oneItem (b i r : Bytes) (h : extractCBOR b = some (i, r)) : Spec.OneItem i :=
  ((extractCBOR_iff b i r).1 h).2

/-- the result depends only on the consumed prefix -/
def Frame {β : Type} (f : Bytes → Option (β × Bytes)) : Prop :=
  ∀ (raw : Bytes) (x : β) (rest : Bytes), f raw = some (x, rest) →
    ∃ p : Bytes, raw = p ++ rest ∧ ∀ s : Bytes, f (p ++ s) = some (x, s)

/-- prefix-freeness: every proper truncation of the item is rejected -/
theorem extractCBOR_truncation (b i r : Bytes) (h : extractCBOR b = some (i, r)) (m : Nat) (hm : m < i.length) :
    extractCBOR (b.take m) = none :=
  Cbor.truncation_of_frame
    (fun b i r h => ⟨i, ((extractCBOR_iff b i r).1 h).1, fun s => extractCBOR_frame b i r s h⟩) h
    (by rw [((extractCBOR_iff b i r).1 h).1, List.length_append]; omega)

/-- fixed-width big-endian round trips -/
theorem ofNatBE_beNat (w : Nat) (l : Bytes) (h : l.length = w) : Bytes.ofNatBE w (Bytes.beNat l) = l :=
  Bytes.ofNatBE_beNat w l h
theorem beNat_ofNatBE (w n : Nat) (h : n < 256 ^ w) : Bytes.beNat (Bytes.ofNatBE w n) = n :=
  Bytes.beNat_ofNatBE w n h
theorem beNat_lt (l : Bytes) : Bytes.beNat l < 256 ^ l.length := Bytes.beNat_lt l

/-! ## parser combinators the two `Unmarshal` functions are built from, each with the inputs it accepts -/

/-- take exactly `k` bytes (fail when fewer are left), continue with them and the rest -/
def stage {β : Type} (k : Nat) (g : Bytes → Bytes → Option β) (raw : Bytes) : Option β :=
  if raw.length < k then none else g (raw.take k) (raw.drop k)

/-- take one byte -/
def stage1 {β : Type} (g : UInt8 → Bytes → Option β) : Bytes → Option β
  | [] => none
  | x :: raw => g x raw

/-- run `f`, continue with its result and remainder -/
def bindP {α β : Type} (f : Bytes → Option (α × Bytes)) (g : α → Bytes → Option β) (raw : Bytes) : Option β :=
  match f raw with
  | none => none
  | some (a, raw) => g a raw

def acdTail (g c : Bytes) (raw : Bytes) : Option (AttestedCredentialData × Bytes) :=
  match extractCBOR raw with
  | none => none
  | some (key, rest) => some (⟨g, c, key⟩, rest)

def optACD (t : Bool) (raw : Bytes) : Option (Option AttestedCredentialData × Bytes) :=
  if t then
    match unmarshalACD raw with
    | none => none
    | some (acd, rest) => some (some acd, rest)
  else some (none, raw)

def extTail (h : Bytes) (f : UInt8) (sc : Nat) (acd : Option AttestedCredentialData) (raw : Bytes) :
    Option (AuthData × Bytes) :=
  if flagsED f then
    match extractCBOR raw with
    | none => none
    | some (ext, rest) => some (⟨h, f, sc, acd, ext⟩, rest)
  else some (⟨h, f, sc, acd, []⟩, raw)

/-- the model's `unmarshalACD` is literally this composition (checked by `rfl`: the sizes come from `Generated.Core`) -/
theorem unmarshalACD_eq (raw : Bytes) : unmarshalACD raw =
    stage 16 (fun g raw => stage 2 (fun L raw => stage (Bytes.beNat L) (fun c raw => acdTail g c raw) raw) raw) raw := rfl

/-- the model's `unmarshalAuthData` is literally this composition -/
theorem unmarshalAuthData_eq (raw : Bytes) : unmarshalAuthData raw =
    stage 32 (fun h raw => stage1 (fun f raw => stage 4 (fun sc raw =>
      bindP (optACD (flagsAT f)) (fun acd raw => extTail h f (Bytes.beNat sc) acd raw) raw) raw) raw) raw := by
  unfold unmarshalAuthData stage
  simp only [rpIdHashSize]
  by_cases h : raw.length < 32
  · simp only [h, if_true]
  · simp only [h, if_false]
    cases List.drop 32 raw with
    | nil => rfl
    | cons f q =>
      simp only [stage1]
      rw [if_neg (by decide)]
      by_cases h4 : q.length < 4
      · simp only [h4, if_true]
      · simp only [h4, if_false]
        unfold bindP optACD extTail
        cases flagsAT f with
        | false => rfl
        | true =>
          simp only [if_true]
          cases unmarshalACD (List.drop 4 q) with
          | none => rfl
          | some ar => rfl

theorem stage_eq_some {β : Type} (k : Nat) (g : Bytes → Bytes → Option β) (raw : Bytes) (x : β) :
    stage k g raw = some x ↔ ∃ p q, raw = p ++ q ∧ p.length = k ∧ g p q = some x := by
  unfold stage
  constructor
  · intro h
    split at h
    · cases h
    · rename_i hk
      exact ⟨raw.take k, raw.drop k, (List.take_append_drop k raw).symm, by rw [List.length_take]; omega, h⟩
  · rintro ⟨p, q, rfl, rfl, h⟩
    rw [if_neg (by simp), List.take_left, List.drop_left]; exact h

theorem stage1_eq_some {β : Type} (g : UInt8 → Bytes → Option β) (raw : Bytes) (x : β) :
    stage1 g raw = some x ↔ ∃ f q, raw = f :: q ∧ g f q = some x := by
  cases raw with
  | nil => simp [stage1]
  | cons f q =>
    simp only [stage1, List.cons.injEq]
    constructor
    · intro h; exact ⟨f, q, ⟨rfl, rfl⟩, h⟩
    · rintro ⟨f', q', ⟨rfl, rfl⟩, h⟩; exact h

theorem bindP_eq_some {α β : Type} (f : Bytes → Option (α × Bytes)) (g : α → Bytes → Option β) (raw : Bytes)
    (x : β) : bindP f g raw = some x ↔ ∃ a r, f raw = some (a, r) ∧ g a r = some x := by
  unfold bindP
  cases f raw with
  | none => simp
  | some ar =>
    obtain ⟨a, r⟩ := ar
    simp only [Option.some.injEq, Prod.mk.injEq]
    constructor
    · intro h; exact ⟨a, r, ⟨rfl, rfl⟩, h⟩
    · rintro ⟨a', r', ⟨rfl, rfl⟩, h⟩; exact h

/-- the three tails written with `bindP` (their `match` on a pair is the model's own, `bindP`'s is another) -/
theorem acdTail_eq (g c raw : Bytes) :
    acdTail g c raw = bindP extractCBOR (fun key rest => some (⟨g, c, key⟩, rest)) raw := by
  unfold acdTail bindP
  cases extractCBOR raw <;> rfl

theorem optACD_true (raw : Bytes) :
    optACD true raw = bindP unmarshalACD (fun acd rest => some (some acd, rest)) raw := by
  unfold optACD bindP
  cases unmarshalACD raw <;> rfl

theorem extTail_eq (h : Bytes) (f : UInt8) (sc : Nat) (acd : Option AttestedCredentialData) (raw : Bytes) :
    extTail h f sc acd raw =
      if flagsED f then bindP extractCBOR (fun ext rest => some (⟨h, f, sc, acd, ext⟩, rest)) raw
      else some (⟨h, f, sc, acd, []⟩, raw) := by
  unfold extTail bindP
  cases extractCBOR raw <;> rfl

/-- `unmarshalACD` accepts exactly `aaguid(16) ‖ be16 len ‖ credId(len) ‖ one CBOR item ‖ rest` -/
theorem unmarshalACD_iff (b : Bytes) (a : AttestedCredentialData) (rest : Bytes) :
    unmarshalACD b = some (a, rest) ↔
      a.aaguid.length = 16 ∧ a.credentialId.length < 65536 ∧ Spec.OneItem a.credentialPublicKey ∧
        b = marshalACD a ++ rest := by
  simp only [unmarshalACD_eq, acdTail_eq, stage_eq_some, bindP_eq_some, extractCBOR_iff, marshalACD]
  constructor
  · rintro ⟨g, _, rfl, hg, L, _, rfl, hL, c, _, rfl, hc, key, _, ⟨rfl, hone⟩, h⟩
    cases h
    have hlt := Bytes.beNat_lt L
    rw [hL] at hlt
    refine ⟨hg, by simp only; omega, hone, ?_⟩
    simp only [hc, Bytes.ofNatBE_beNat 2 L hL, List.append_assoc]
  · rintro ⟨hg, hc, h1, rfl⟩
    exact ⟨_, _, by simp only [List.append_assoc], hg, _, _, rfl, Bytes.length_ofNatBE _ _, _, _, rfl,
      (Bytes.beNat_ofNatBE 2 _ hc).symm, _, _, ⟨rfl, h1⟩, rfl⟩

theorem optACD_iff (t : Bool) (q : Bytes) (acd : Option AttestedCredentialData) (r1 : Bytes) :
    optACD t q = some (acd, r1) ↔ ∃ acdBytes, q = acdBytes ++ r1 ∧
      (if t then
        ∃ a : AttestedCredentialData, acd = some a ∧ a.aaguid.length = 16 ∧ a.credentialId.length < 65536 ∧
          Spec.OneItem a.credentialPublicKey ∧ acdBytes = marshalACD a
       else acd = none ∧ acdBytes = []) := by
  cases t with
  | false =>
    simp only [optACD, Bool.false_eq_true, if_false, Option.some.injEq, Prod.mk.injEq]
    constructor
    · rintro ⟨rfl, rfl⟩; exact ⟨[], rfl, rfl, rfl⟩
    · rintro ⟨_, rfl, rfl, rfl⟩; exact ⟨rfl, rfl⟩
  | true =>
    simp only [optACD_true, bindP_eq_some, unmarshalACD_iff]
    constructor
    · rintro ⟨a, _, ⟨h1, h2, h3, rfl⟩, h⟩; cases h; exact ⟨_, rfl, a, rfl, h1, h2, h3, rfl⟩
    · rintro ⟨_, rfl, a, rfl, h1, h2, h3, rfl⟩; exact ⟨a, _, ⟨h1, h2, h3, rfl⟩, rfl⟩

theorem extTail_iff (h : Bytes) (f : UInt8) (sc : Nat) (acd : Option AttestedCredentialData) (q : Bytes)
    (d : AuthData) (rest : Bytes) :
    extTail h f sc acd q = some (d, rest) ↔ ∃ extBytes, q = extBytes ++ rest ∧
      d.rpIdHash = h ∧ d.flags = f ∧ d.signCount = sc ∧ d.acd = acd ∧
      (if flagsED f then Spec.OneItem d.extensions ∧ extBytes = d.extensions
       else d.extensions = [] ∧ extBytes = []) := by
  obtain ⟨dh, df, dsc, dacd, dext⟩ := d
  rw [extTail_eq]
  cases hE : flagsED f with
  | true =>
    simp only [if_true, bindP_eq_some, extractCBOR_iff, Option.some.injEq, Prod.mk.injEq, AuthData.mk.injEq]
    constructor
    · rintro ⟨ext, _, ⟨rfl, h1⟩, ⟨rfl, rfl, rfl, rfl, rfl⟩, rfl⟩; exact ⟨_, rfl, rfl, rfl, rfl, rfl, h1, rfl⟩
    · rintro ⟨_, rfl, rfl, rfl, rfl, rfl, h1, rfl⟩; exact ⟨_, _, ⟨rfl, h1⟩, ⟨rfl, rfl, rfl, rfl, rfl⟩, rfl⟩
  | false =>
    simp only [Bool.false_eq_true, if_false, Option.some.injEq, Prod.mk.injEq, AuthData.mk.injEq]
    constructor
    · rintro ⟨⟨rfl, rfl, rfl, rfl, rfl⟩, rfl⟩
      exact ⟨[], rfl, rfl, rfl, rfl, rfl, rfl, rfl⟩
    · rintro ⟨_, rfl, rfl, rfl, rfl, rfl, rfl, rfl⟩
      exact ⟨⟨rfl, rfl, rfl, rfl, rfl⟩, rfl⟩

/-- Unmarshal accepts exactly the WebAuthn layout, returns each field with exactly the input bytes and the
unconsumed suffix -/
theorem unmarshal_layout (b : Bytes) (d : AuthData) (rest : Bytes) :
    unmarshalAuthData b = some (d, rest) ↔ Spec.Layout b d rest := by
  simp only [unmarshalAuthData_eq, stage_eq_some, stage1_eq_some, bindP_eq_some, optACD_iff, extTail_iff]
  unfold Spec.Layout
  rw [← (flag_bits d.flags).2.2.1, ← (flag_bits d.flags).2.2.2]
  constructor
  · rintro ⟨hh, _, rfl, hhl, f, _, rfl, sc, _, rfl, hsc, acd, _, ⟨acdBytes, rfl, hA⟩, extBytes, rfl, rfl, rfl, hsc', rfl, hE⟩
    refine ⟨acdBytes, extBytes, ?_, hhl, ?_, hA, hE⟩
    · rw [hsc', Bytes.ofNatBE_beNat 4 sc hsc]; simp only [List.append_assoc, List.cons_append, List.nil_append]
    · rw [hsc']; have := Bytes.beNat_lt sc; rw [hsc] at this; omega
  · rintro ⟨acdBytes, extBytes, rfl, hhl, hsc, hA, hE⟩
    exact ⟨_, _, by simp only [List.append_assoc, List.cons_append, List.nil_append], hhl, _, _, rfl, _, _, rfl,
      Bytes.length_ofNatBE _ _, _, _, ⟨acdBytes, rfl, hA⟩, extBytes, rfl, rfl, rfl,
      (Bytes.beNat_ofNatBE 4 _ (by omega)).symm, rfl, hE⟩

/-- the empty map `a0` followed by anything is one item -/
theorem extractCBOR_a0 (s : Bytes) : extractCBOR (0xa0 :: s) = some ([0xa0], s) := by
  have : Cbor.decode (0xa0 :: s) = some (.map [], s) :=
    (Cbor.item_container (Cbor.head_imm (by decide)) (.inr rfl)).trans
      (by simp [Cbor.maxNested, Cbor.maxElems, Cbor.items, Cbor.wrap])
  simp [extractCBOR, this, Cbor.acceptable, Cbor.acceptablePairs]

/-- non-vacuity: flags 0xC1 (UP|AT|ED), 2-byte credential id, key item `a0`, extension item `a0`, one byte left -/
example :
    unmarshalAuthData
        (List.replicate 32 7 ++ [0xC1] ++ [0, 0, 0, 5] ++
          (List.replicate 16 9 ++ [0, 2] ++ [1, 2] ++ [0xa0]) ++ [0xa0] ++ [0x99]) =
      some (⟨List.replicate 32 7, 0xC1, 5, some ⟨List.replicate 16 9, [1, 2], [0xa0]⟩, [0xa0]⟩, [0x99]) := by
  decide +kernel

/-- and therefore `Spec.Layout` is inhabited at that point -/
example :
    Spec.Layout
        (List.replicate 32 7 ++ [0xC1] ++ [0, 0, 0, 5] ++
          (List.replicate 16 9 ++ [0, 2] ++ [1, 2] ++ [0xa0]) ++ [0xa0] ++ [0x99])
        ⟨List.replicate 32 7, 0xC1, 5, some ⟨List.replicate 16 9, [1, 2], [0xa0]⟩, [0xa0]⟩ [0x99] :=
  (unmarshal_layout _ _ _).1 (by decide +kernel)

/-! ## round trips -/
/-- the bytes of the optional attested credential data -/
def acdBytes (d : AuthData) : Bytes :=
  match d.acd with
  | some a => marshalACD a
  | none => []

/-- The layout with the two optional byte strings read off the value: `b` is the serialisation of a well-formed
value, followed by `rest`. -/
theorem layout_iff (b : Bytes) (d : AuthData) (rest : Bytes) :
    Spec.Layout b d rest ↔ Spec.WellFormed d ∧
      b = d.rpIdHash ++ [d.flags] ++ Bytes.ofNatBE 4 d.signCount ++ acdBytes d ++ d.extensions ++ rest := by
  have hA : ∀ acdB, (if Spec.bit d.flags 6 then
        ∃ a : AttestedCredentialData, d.acd = some a ∧ a.aaguid.length = 16 ∧ a.credentialId.length < 65536 ∧
          Spec.OneItem a.credentialPublicKey ∧
          acdB = a.aaguid ++ Bytes.ofNatBE 2 a.credentialId.length ++ a.credentialId ++ a.credentialPublicKey
      else d.acd = none ∧ acdB = []) ↔
      (if Spec.bit d.flags 6 then
        ∃ a : AttestedCredentialData, d.acd = some a ∧ a.aaguid.length = 16 ∧ a.credentialId.length < 65536 ∧
          Spec.OneItem a.credentialPublicKey
      else d.acd = none) ∧ acdB = acdBytes d := by
    intro acdB
    unfold acdBytes
    split
    · constructor
      · rintro ⟨a, ha, h1, h2, h3, rfl⟩; rw [ha]; exact ⟨⟨a, rfl, h1, h2, h3⟩, rfl⟩
      · rintro ⟨⟨a, ha, h1, h2, h3⟩, rfl⟩; rw [ha]; exact ⟨a, rfl, h1, h2, h3, rfl⟩
    · constructor
      · rintro ⟨ha, rfl⟩; rw [ha]; exact ⟨rfl, rfl⟩
      · rintro ⟨ha, rfl⟩; rw [ha]; exact ⟨rfl, rfl⟩
  have hE : ∀ extB, (if Spec.bit d.flags 7 then Spec.OneItem d.extensions ∧ extB = d.extensions
      else d.extensions = [] ∧ extB = []) ↔
      (if Spec.bit d.flags 7 then Spec.OneItem d.extensions else d.extensions = []) ∧ extB = d.extensions := by
    intro extB
    split
    · rfl
    · constructor
      · rintro ⟨h, rfl⟩; exact ⟨h, h.symm⟩
      · rintro ⟨h, rfl⟩; exact ⟨h, h⟩
  simp only [Spec.Layout, Spec.WellFormed, hA, hE]
  constructor
  · rintro ⟨_, _, rfl, h1, h2, ⟨hA, rfl⟩, hE, rfl⟩; exact ⟨⟨h1, h2, hA, hE⟩, rfl⟩
  · rintro ⟨⟨h1, h2, hA, hE⟩, rfl⟩; exact ⟨_, _, rfl, h1, h2, ⟨hA, rfl⟩, hE, rfl⟩

theorem marshal_of_wellFormed (d : AuthData) (h : Spec.WellFormed d) :
    marshalAuthData d = some (d.rpIdHash ++ [d.flags] ++ Bytes.ofNatBE 4 d.signCount ++ acdBytes d ++ d.extensions) := by
  obtain ⟨-, -, hA, hE⟩ := h
  rw [← (flag_bits d.flags).2.2.1] at hA
  rw [← (flag_bits d.flags).2.2.2] at hE
  unfold marshalAuthData acdBytes
  split at hA
  · obtain ⟨a, ha, -⟩ := hA
    split at hE <;> simp [*]
  · split at hE <;> simp [*]

/-- `Unmarshal` accepts exactly the serialisations of well-formed values, followed by anything -/
theorem unmarshal_iff (b : Bytes) (d : AuthData) (rest : Bytes) :
    unmarshalAuthData b = some (d, rest) ↔ Spec.WellFormed d ∧
      b = d.rpIdHash ++ [d.flags] ++ Bytes.ofNatBE 4 d.signCount ++ acdBytes d ++ d.extensions ++ rest :=
  (unmarshal_layout b d rest).trans (layout_iff b d rest)

/-- Marshal(Unmarshal(b)) is the consumed prefix of b, byte for byte -/
theorem marshal_unmarshal (b : Bytes) (d : AuthData) (rest : Bytes) (h : unmarshalAuthData b = some (d, rest)) :
    ∃ p, marshalAuthData d = some p ∧ b = p ++ rest :=
  ⟨_, marshal_of_wellFormed d ((unmarshal_iff b d rest).1 h).1, ((unmarshal_iff b d rest).1 h).2⟩

/-- Unmarshal(Marshal(d) ++ s) = (d, s) for every well-formed d and every suffix s -/
theorem unmarshal_marshal (d : AuthData) (s : Bytes) (h : Spec.WellFormed d) :
    ∃ p, marshalAuthData d = some p ∧ unmarshalAuthData (p ++ s) = some (d, s) :=
  ⟨_, marshal_of_wellFormed d h, (unmarshal_iff _ _ _).2 ⟨h, rfl⟩⟩

/-- what Unmarshal returns is well-formed -/
theorem unmarshal_wellFormed (b : Bytes) (d : AuthData) (rest : Bytes) (h : unmarshalAuthData b = some (d, rest)) :
    Spec.WellFormed d :=
  ((unmarshal_iff b d rest).1 h).1

/-! ## truncation -/

theorem unmarshalACD_frame : Frame unmarshalACD := by
  intro raw a rest h
  obtain ⟨h1, h2, h3, rfl⟩ := (unmarshalACD_iff _ _ _).1 h
  exact ⟨marshalACD a, rfl, fun s => (unmarshalACD_iff _ _ _).2 ⟨h1, h2, h3, rfl⟩⟩

theorem unmarshalAuthData_frame : Frame unmarshalAuthData := by
  intro raw d rest h
  obtain ⟨hw, hb⟩ := (unmarshal_iff raw d rest).1 h
  exact ⟨_, hb, fun s => (unmarshal_iff _ _ _).2 ⟨hw, rfl⟩⟩

/-- every truncation of a valid encoding (cut anywhere inside the consumed prefix) is rejected -/
theorem truncation_rejected (b : Bytes) (d : AuthData) (rest : Bytes) (h : unmarshalAuthData b = some (d, rest))
    (n : Nat) (hn : n < b.length - rest.length) : unmarshalAuthData (b.take n) = none :=
  Cbor.truncation_of_frame unmarshalAuthData_frame h hn

/-- the same three facts for attested credential data on its own -/
theorem acd_marshal_unmarshal (b : Bytes) (a : AttestedCredentialData) (rest : Bytes)
    (h : unmarshalACD b = some (a, rest)) : b = marshalACD a ++ rest :=
  ((unmarshalACD_iff b a rest).1 h).2.2.2

theorem acd_unmarshal_marshal (a : AttestedCredentialData) (s : Bytes) (h1 : a.aaguid.length = 16)
    (h2 : a.credentialId.length < 65536) (h3 : Spec.OneItem a.credentialPublicKey) :
    unmarshalACD (marshalACD a ++ s) = some (a, s) :=
  (unmarshalACD_iff _ a s).2 ⟨h1, h2, h3, rfl⟩

theorem acd_truncation_rejected (b : Bytes) (a : AttestedCredentialData) (rest : Bytes)
    (h : unmarshalACD b = some (a, rest)) (n : Nat) (hn : n < b.length - rest.length) : unmarshalACD (b.take n) = none :=
  Cbor.truncation_of_frame unmarshalACD_frame h hn

end WebAuthn.C10
