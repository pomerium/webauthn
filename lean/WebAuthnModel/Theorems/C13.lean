import WebAuthnModel.Theorems.C01
import WebAuthnModel.Theorems.C02
/-
  C13 — credentials are scoped to the RP host: origin and RP ID matching.
  The label walk theorems are in `Proofs/Origin.lean` (`labelWalk_iff`, `labelWalkLoop_eq`, the rejection corollaries);
  this file states the ceremony-level consequences.
  Host extraction (`url.Parse(..).Hostname()`) is the Lean model of net/url, `Url.hostOf` (`Model/Url.lean`):
  statements are about the hosts `Url.hostOf` reports; the origin decision asks the environment nothing.
-/
namespace WebAuthn.C13
open WebAuthn

/-- in both ceremonies a client-data origin is acceptable exactly when its host equals the RP host or ends with "." ++ RP host
    (and the RP host is non-empty: an origin that is empty, unparsable or host-less is never acceptable, on either side) -/
theorem origin_acceptable_iff (env : Prog.Env) (clientOrigin rpOrigin : Bytes) :
    Prog.run env (originMatches clientOrigin rpOrigin) = true ↔
      ∃ ch rh, Url.hostOf clientOrigin = some ch ∧ Url.hostOf rpOrigin = some rh ∧
        rh ≠ [] ∧ (ch = rh ∨ ∃ p : Bytes, ch = p ++ dot :: rh) :=
  run_originMatches env clientOrigin rpOrigin

/-- an unparsable client origin (the URL parser reports an error) is never acceptable -/
theorem unparsable_origin_rejected (env : Prog.Env) (co ro : Bytes) (h : Url.hostOf co = none) :
    Prog.run env (originMatches co ro) = false := by
  rw [originMatches_run_eq, h]

/-- a host-less client origin (empty host) is never acceptable -/
theorem hostless_origin_rejected (env : Prog.Env) (co ro : Bytes) (h : Url.hostOf co = some []) :
    Prog.run env (originMatches co ro) = false := by
  rw [originMatches_run_eq, h]
  cases Url.hostOf ro with
  | none => rfl
  | some rh => exact labelWalk_nil_left rh

/-- scheme and port are irrelevant: only what the URL parser reports as host enters the decision
    (two client origins with the same `Url.hostOf`, and two RP origins with the same `Url.hostOf`, give the same decision) -/
theorem only_hosts_matter (env : Prog.Env) (co co' ro ro' : Bytes)
    (hc : Url.hostOf co = Url.hostOf co') (hr : Url.hostOf ro = Url.hostOf ro') :
    Prog.run env (originMatches co ro) = Prog.run env (originMatches co' ro') := by
  rw [originMatches_run_eq, originMatches_run_eq, hc, hr]

/-- the relying party's RP ID is the host name of its configured origin (the origin itself when it does not parse) -/
theorem rp_id_is_host (env : Prog.Env) (origin : Bytes) :
    (Prog.run env (newRP origin)).id = (match Url.hostOf origin with | some h => h | none => origin) ∧
    (Prog.run env (newRP origin)).origin = origin := by
  unfold newRP rpId
  cases Url.hostOf origin <;> simp [Prog.run_bind, Prog.run_pure]

/-- authentication accepts only authenticator data whose RP ID hash is SHA-256 of exactly the RP ID -/
theorem auth_rpIdHash_exact (env : Prog.Env) (rp : RP) (o : RequestOptions) (a : Assertion) (get : Bytes → GetOutcome) (cred : Credential)
    (h : (Prog.run env (verifyAuthentication rp o a get)).result = .ok cred) :
    ∃ ad rest, unmarshalAuthData a.authenticatorData = some (ad, rest) ∧ ad.rpIdHash = Spec.sha256 env rp.id := by
  obtain ⟨ad, rest, h1, h2, _⟩ := ((C01.auth_iff env rp o a get cred).1 h).authData
  exact ⟨ad, rest, h1, h2⟩

/-- registration accepts only authenticator data whose RP ID hash is SHA-256 of exactly the RP ID -/
theorem reg_rpIdHash_exact (env : Prog.Env) (rp : RP) (o : CreationOptions) (c : Attestation) (opts : List VerifyOption)
    (get : Bytes → GetOutcome) (set : Credential → SetOutcome) (cred : Credential)
    (h : (Prog.run env (verifyRegistration rp o c opts get set)).result = .ok cred) :
    ∃ ao rest ad adRest, unmarshalAttestationObject c.attestationObject = .ok ao rest ∧
      unmarshalAuthData ao.authData = some (ad, adRest) ∧ ad.rpIdHash = Spec.sha256 env rp.id := by
  obtain ⟨id, key, hpre, _⟩ := (C02.reg_iff env rp o c opts get set cred).1 h
  obtain ⟨ao, rest, ad, adRest, _, _, _, _, h1, h2, h3, _⟩ := hpre.attestation
  exact ⟨ao, rest, ad, adRest, h1, h2, h3⟩

/-- and the client-data origin of every accepted ceremony satisfies the host condition -/
theorem auth_origin_ok (env : Prog.Env) (rp : RP) (o : RequestOptions) (a : Assertion) (get : Bytes → GetOutcome) (cred : Credential)
    (h : (Prog.run env (verifyAuthentication rp o a get)).result = .ok cred) :
    ∃ cd, Json.clientData a.clientDataJSON = some cd ∧ Spec.OriginOK env cd.origin rp.origin := by
  obtain ⟨cd, h1, _, _, h4⟩ := ((C01.auth_iff env rp o a get cred).1 h).clientData
  exact ⟨cd, h1, h4⟩

/-- the origin decision is independent of the environment: it is the label walk on the two hosts `Url.hostOf` reports,
    and `false` as soon as either origin does not parse -/
theorem origin_decision_is_label_walk (env : Prog.Env) (co ro : Bytes) :
    Prog.run env (originMatches co ro) =
      (match Url.hostOf co, Url.hostOf ro with
       | some ch, some rh => labelWalk ch rh
       | _, _ => false) :=
  originMatches_run_eq env co ro

end WebAuthn.C13
