import WebAuthnModel.Model.Tpm2
import WebAuthnModel.Proofs.Tpm2Lemmas
/-
  C03 / C04, TPM structures — the model of go-tpm's TPMS_ATTEST / TPMT_PUBLIC codec (Model/Tpm2.lean, compared with
  legacy/tpm2 on every run).  The verifier checks the AIK signature over `certInfo.Encode()` — the RE-ENCODING of what it decoded —
  and hashes `pubArea.Encode()`.  These theorems say why that still binds every decoded field: re-encoding is a normal form
  (decoding it gives the same view again), so two byte strings with the same re-encoding decode to the same view.
-/
namespace WebAuthn.Theorems.C04Tpm2
open WebAuthn WebAuthn.Tpm2

/-- decoding the re-encoding of a decoded TPMS_ATTEST gives the same view (and hence the same re-encoding) -/
theorem certInfo_reencode (t : HashTable) (raw e : Bytes) (ci : CertInfoView)
    (h : certInfo t raw = some ci) (he : ci.encoded = some e) : certInfo t e = some ci := by
  revert h
  fun_cases certInfo t raw <;> intro h <;> cases h
  · obtain rfl := Option.some.inj he
    simp (zetaDelta := true) (disch := first | assumption | rfl) only [certInfo, List.append_assoc, fixed_reencode,
      u16bytes_reencode, decodeName_reencode, decodeName_reencode_nil, take_block, ↓if_pos, ↓if_neg, if_false]
  · cases he

/-- two certInfo byte strings with the same re-encoding carry the same magic, type, extraData and certified name -/
theorem certInfo_determined_by_encoding (t : HashTable) (a b e : Bytes) (ca cb : CertInfoView)
    (ha : certInfo t a = some ca) (hb : certInfo t b = some cb) (hea : ca.encoded = some e) (heb : cb.encoded = some e) :
    ca = cb := by
  have h1 := certInfo_reencode t a e ca ha hea
  have h2 := certInfo_reencode t b e cb hb heb
  exact Option.some.inj (h1.symm.trans h2)

/-- the three ways the keyed-hash scheme parameters of `pubArea` decode: none, HMAC (hash), XOR (hash and KDF) copied raw -/
theorem keyedHashParams_cases {alg : Nat} {r pe r1 : Bytes}
    (hp : (if alg = algNull then some (pad 2 alg, r)
      else if alg = algHMAC then (fixed 2 r).map (fun p => (pad 2 alg ++ r.take 2, p.2))
      else if alg = algXOR then (fixed 4 r).map (fun p => (pad 2 alg ++ r.take 4, p.2)) else none) = some (pe, r1)) :
    (alg = algNull ∧ pe = pad 2 alg ∧ r1 = r) ∨
    (alg = algHMAC ∧ ∃ v, fixed 2 r = some (v, r1) ∧ pe = pad 2 alg ++ r.take 2) ∨
    (alg = algXOR ∧ ∃ v, fixed 4 r = some (v, r1) ∧ pe = pad 2 alg ++ r.take 4) := by
  split at hp
  · cases hp; exact .inl ⟨‹_›, rfl, rfl⟩
  · split at hp
    · cases hf : fixed 2 r <;> rw [hf] at hp <;> cases hp
      exact .inr (.inl ⟨‹_›, _, rfl, rfl⟩)
    · split at hp
      · cases hf : fixed 4 r <;> rw [hf] at hp <;> cases hp
        exact .inr (.inr ⟨‹_›, _, rfl, rfl⟩)
      · cases hp

/-- the parameters are one more field: their encoding `pe` (which begins with the algorithm), followed by anything, yields the
    algorithm and then decodes to `pe` again -/
theorem keyedHashParams_reencode {alg : Nat} {r pe r1 : Bytes}
    (hp : (if alg = algNull then some (pad 2 alg, r)
      else if alg = algHMAC then (fixed 2 r).map (fun p => (pad 2 alg ++ r.take 2, p.2))
      else if alg = algXOR then (fixed 4 r).map (fun p => (pad 2 alg ++ r.take 4, p.2)) else none) = some (pe, r1))
    (r' : Bytes) :
    fixed 2 (pe ++ r') = some (alg, pe.drop 2 ++ r') ∧
    (if alg = algNull then some (pad 2 alg, pe.drop 2 ++ r')
      else if alg = algHMAC then (fixed 2 (pe.drop 2 ++ r')).map (fun p => (pad 2 alg ++ (pe.drop 2 ++ r').take 2, p.2))
      else if alg = algXOR then (fixed 4 (pe.drop 2 ++ r')).map (fun p => (pad 2 alg ++ (pe.drop 2 ++ r').take 4, p.2))
      else none) = some (pe, r') := by
  obtain ⟨rfl, rfl, rfl⟩ | ⟨rfl, v, hf, rfl⟩ | ⟨rfl, v, hf, rfl⟩ := keyedHashParams_cases hp
  all_goals
    simp (disch := first | assumption | decide) only [List.append_assoc, List.drop_left' (pad_length 2 _),
      List.drop_eq_nil_of_le (Nat.le_of_eq (pad_length 2 _)), List.nil_append, fixed_pad, fixed_take, take_take_append,
      Option.map_some, ↓if_pos, ↓if_neg, and_self]

/-- decoding the re-encoding of a decoded TPMT_PUBLIC gives the same view: same name algorithm, same key, same re-encoding -/
theorem pubArea_reencode (raw e : Bytes) (pa : PubAreaView)
    (h : pubArea raw = some pa) (he : pa.encoded = some e) : pubArea e = some pa := by
  -- `pubArea`'s own case analysis leaves one goal per kind of public area, with every successful field decoding as a
  -- hypothesis; the re-encoding is then decoded field by field by the `_reencode` lemmas, which find those hypotheses
  revert h
  fun_cases pubArea raw <;> intro h <;> cases h <;> cases he <;>
    simp (zetaDelta := true) (disch := first | assumption | rfl) only [pubArea, List.append_assoc, fixed_reencode,
      u16bytes_reencode, u16bytes_reencode_nil, symScheme_reencode, sigScheme_reencode, kdfScheme_reencode,
      keyedHashParams_reencode, ↓if_pos, ↓if_neg]

theorem pubArea_determined_by_encoding (a b e : Bytes) (pa pb : PubAreaView)
    (ha : pubArea a = some pa) (hb : pubArea b = some pb) (hea : pa.encoded = some e) (heb : pb.encoded = some e) :
    pa = pb := by
  have h1 := pubArea_reencode a e pa ha hea
  have h2 := pubArea_reencode b e pb hb heb
  exact Option.some.inj (h1.symm.trans h2)

/-- a structure with another magic value, or of an unknown type, does not decode -/
theorem certInfo_magic (t : HashTable) (raw : Bytes) (ci : CertInfoView) (h : certInfo t raw = some ci) :
    ci.magic = 0xff544347 ∧ (ci.type = 0x8017 ∨ ci.type = 0x801a ∨ ci.type = 0x8018) ∧ (ci.hasCertifyInfo = true ↔ ci.type = 0x8017) := by
  revert h
  fun_cases certInfo t raw <;> intro h <;> cases h
  · exact ⟨Decidable.not_not.1 ‹_›, .inl rfl, iff_of_true rfl rfl⟩
  · exact ⟨Decidable.not_not.1 ‹_›, .inr ‹_›, iff_of_false Bool.false_ne_true ‹_›⟩

theorem curveOf_some {c crv : Nat} (h : curveOf c = some (some crv)) : crv = 1 ∨ crv = 2 ∨ crv = 3 := by
  revert h
  fun_cases curveOf c <;> intro h <;> cases h <;> decide

/-- the key of a decoded public area is never of a kind the credential-key comparison accepts unless it is RSA or a NIST P-256/384/521 point -/
theorem pubArea_key_kinds (raw : Bytes) (pa : PubAreaView) (k : KeyMat) (h : pubArea raw = some pa) (hk : pa.key = some k) :
    (∃ n e, k = .rsa n e) ∨ (∃ c x y, k = .ec c x y ∧ (c = 1 ∨ c = 2 ∨ c = 3)) ∨ k = .other := by
  revert h
  fun_cases pubArea raw <;> intro h <;> cases h
  · cases hk; exact .inl ⟨_, _, rfl⟩
  · simp (zetaDelta := true) only at hk
    split at hk
    · cases hk
    · cases hk; exact .inr (.inr rfl)
    · cases hk; exact .inr (.inl ⟨_, _, _, rfl, curveOf_some ‹_›⟩)
  · cases hk
  · cases hk

/-- concrete structures, evaluated in the kernel: an RSA storage-key template with exponent 0 (= 65537), and a certify structure whose
    certified name is a SHA-256 digest; a name whose size prefix is shorter than the digest is zero-padded, not refused -/
def sha256Table : HashTable := [(0x0B, 5)]

def rsaPub : Bytes :=
  [0x00, 0x01, 0x00, 0x0B, 0x00, 0x03, 0x00, 0x72, 0x00, 0x00, 0x00, 0x10, 0x00, 0x10, 0x08, 0x00, 0x00, 0x00, 0x00, 0x00, 0x00, 0x03, 0x00, 0xAB, 0xCD]

def certify (nameBuf : Bytes) : Bytes :=
  [0xff, 0x54, 0x43, 0x47, 0x80, 0x17, 0x00, 0x00, 0x00, 0x02, 0xAA, 0xBB] ++ List.replicate 25 0 ++
    Bytes.ofNatBE 2 nameBuf.length ++ nameBuf ++ [0x00, 0x00]

theorem concrete_structures :
    (pubArea rsaPub).map (fun p => (p.nameAlg, p.key)) = some (0x0B, some (.rsa [0xAB, 0xCD] 65537)) ∧
    (certInfo sha256Table (certify ([0x00, 0x0B] ++ List.replicate 32 7))).map (fun c => (c.extraData, c.name)) =
      some ([0xAA, 0xBB], .digest 0x0B (List.replicate 32 7)) ∧
    (certInfo sha256Table (certify ([0x00, 0x0B] ++ List.replicate 5 7))).map (·.name) =
      some (.digest 0x0B (List.replicate 5 7 ++ List.replicate 27 0)) ∧
    (certInfo sha256Table (certify [0x00, 0x0B])) = none ∧
    (certInfo [] (certify ([0x00, 0x0B] ++ List.replicate 32 7))) = none ∧
    (certInfo sha256Table (certify [1, 2, 3, 4])).map (·.name) = some .handle ∧
    (certInfo sha256Table (certify [])).map (·.name) = some .none := by
  refine ⟨?_, ?_, ?_, ?_, ?_, ?_, ?_⟩ <;> decide +kernel

end WebAuthn.Theorems.C04Tpm2
