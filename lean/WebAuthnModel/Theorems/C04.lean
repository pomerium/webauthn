import WebAuthnModel.Spec.Attestation
import WebAuthnModel.Theorems.C12
import WebAuthnModel.Theorems.C08
import WebAuthnModel.Proofs.JwsLemmas
import WebAuthnModel.Proofs.X509SigLemmas
/-
  C04 — each attestation statement verifier accepts exactly when the requirements of its format hold
  (and C05: the attestation type / trust path reported).  For every environment.
-/
namespace WebAuthn.C04
open WebAuthn WebAuthn.Cbor WebAuthn.Att WebAuthn.Spec.Att Prog

/-! ### oracle helpers -/

theorem run_askBool (env : Prog.Env) (q : Ask) :
    Prog.run env (askBool q) = true ↔ env.answer q = .bool true := Att.run_askBool env q

theorem run_hardwareDetailsOK (c : CertView) :
    hardwareDetailsOK c = true ↔ ∃ details, Tpm.detailsFromSan (sanViews c) = some details := by
  simp only [hardwareDetailsOK, Option.isSome_iff_exists]

theorem run_askBytes (env : Prog.Env) (q : Ask) (b : Bytes) :
    Prog.run env (askBytes q) = some b ↔ env.answer q = .bytes b := Att.run_askBytes env q b

/-! ### certificates -/

/-- `X5cList` is the successful run of `List.mapM` with "a byte string that parses as a certificate" as the step -/
theorem x5cList_iff_mapM (env : Prog.Env) (xs : List Value) (cs : List (Bytes × CertView)) :
    X5cList env xs cs ↔
      xs.mapM (fun v => (asBytes v).bind fun der => (run env (askCert der)).map (der, ·)) = some cs := by
  induction xs generalizing cs with
  | nil => cases cs <;> simp [X5cList]
  | cons v rest ih =>
    rw [mapM_cons_eq_some]
    cases cs with
    | nil => simp [X5cList]
    | cons p cs =>
      obtain ⟨d, c⟩ := p
      cases v with
      | bytes der =>
        simp only [X5cList, ih, asBytes, Option.bind_some, Option.map_eq_some_iff, run_askCert, List.cons.injEq]
        constructor
        · rintro ⟨rfl, h1, h2⟩; exact ⟨_, _, ⟨_, h1, rfl⟩, h2, rfl, rfl⟩
        · rintro ⟨_, _, ⟨_, h1, rfl⟩, h2, ⟨⟩, rfl⟩; exact ⟨rfl, h1, h2⟩
      | _ => exact ⟨False.elim, fun ⟨_, _, h, _⟩ => nomatch h⟩

theorem parseCerts_iff (env : Prog.Env) (xs : List Value) (cs : List (Bytes × CertView)) :
    Prog.run env (parseCerts xs) = some cs ↔ X5cList env xs cs := by
  rw [x5cList_iff_mapM, run_traverse env parseCerts _ rfl]
  intro v rest
  simp only [parseCerts]
  cases asBytes v with
  | none => rfl
  | some der =>
    simp only [run_bind, Option.bind_some]
    cases run env (askCert der) with
    | none => rfl
    | some c => simp only [run_bind]; cases run env (parseCerts rest) <;> rfl

theorem unmarshal_ok_iff (env : Prog.Env) (stmt : List (Bytes × Value)) (cs : List (Bytes × CertView)) :
    Prog.run env (unmarshalCertificates stmt) = .ok cs ↔ X5c env stmt cs := by
  simp only [unmarshalCertificates, X5c]
  cases hg : stmtGet stmt "x5c" with
  | none => simp
  | some v =>
    cases v with
    | array xs =>
      simp only [asArray, Prog.run_bind, Option.some.injEq, Value.array.injEq, exists_eq_left']
      rw [← parseCerts_iff]
      cases Prog.run env (parseCerts xs) <;> simp
    | _ => simp [asArray]

theorem unmarshal_missing_iff (env : Prog.Env) (stmt : List (Bytes × Value)) :
    Prog.run env (unmarshalCertificates stmt) = .missing ↔ stmtGet stmt "x5c" = none := by
  simp only [unmarshalCertificates]
  cases hg : stmtGet stmt "x5c" with
  | none => simp
  | some v =>
    cases v with
    | array xs =>
      simp only [asArray, Prog.run_bind]
      cases Prog.run env (parseCerts xs) <;> simp
    | _ => simp [asArray]

/-! ### authenticator data, credential key, key equality -/

theorem attested_iff (o : AttObj) (d : AuthData) (acd : AttestedCredentialData) :
    attestedAuthData o = some (d, acd) ↔ Attested o d acd := by
  simp only [attestedAuthData, Attested]
  cases hu : unmarshalAuthData o.authData with
  | none => simp
  | some p =>
    obtain ⟨d', rest⟩ := p
    simp only [Option.some.injEq, Prod.mk.injEq]
    cases ha : d'.acd with
    | none =>
      simp only [reduceCtorEq, false_iff, not_exists, not_and]
      rintro r ⟨rfl, _⟩ h; rw [ha] at h; cases h
    | some a =>
      simp only [Option.some.injEq, Prod.mk.injEq]
      constructor
      · rintro ⟨rfl, rfl⟩; exact ⟨rest, ⟨rfl, rfl⟩, ha⟩
      · rintro ⟨r, ⟨rfl, rfl⟩, h⟩; rw [ha] at h; cases h; exact ⟨rfl, rfl⟩

theorem credKey_iff (acd : AttestedCredentialData) (k : Cose.Key) :
    credentialKey acd = some k ↔ CredKey acd k := by
  simp only [credentialKey, CredKey]
  cases Cose.parse acd.credentialPublicKey <;> simp

theorem keysEqual_iff (a b : KeyMat) : keysEqual a b = true ↔ a ≠ .other ∧ a = b := by
  cases a <;> simp [keysEqual]

theorem run_certCheckSig (env : Prog.Env) (der : Bytes) (c : CertView) (alg : Int) (msg sig : Bytes) :
    Prog.run env (certCheckSig der c alg msg sig) = true ↔ CertSigOK env der c alg msg sig := by
  rw [X509SigLemmas.run_certCheckSig, C12.algX509_spec, CertSigOK]

/-! ### none -/

theorem none_iff (env : Prog.Env) (res : Result) : Prog.run env verifyNone = some res ↔ NoneOK res := by
  simp only [verifyNone, NoneOK, Prog.run_pure, Option.some.injEq]
  exact eq_comm

/-! ### packed -/

theorem certAAGUID_spec (env : Prog.Env) (c : CertView) :
    (findExt c [1, 3, 6, 1, 4, 1, 45724, 1, 1, 4] = none ∧ Prog.run env (certAAGUID c) = .absent) ∨
    (∃ e, findExt c [1, 3, 6, 1, 4, 1, 45724, 1, 1, 4] = some e ∧ e.critical = true ∧
      Prog.run env (certAAGUID c) = .critical) ∨
    (∃ e, findExt c [1, 3, 6, 1, 4, 1, 45724, 1, 1, 4] = some e ∧ e.critical = false ∧
      (∀ b, KeyDesc.octetStringExact e.value = some b → b.length ≠ 16) ∧
      Prog.run env (certAAGUID c) = .invalid) ∨
    (∃ e b, findExt c [1, 3, 6, 1, 4, 1, 45724, 1, 1, 4] = some e ∧ e.critical = false ∧
      KeyDesc.octetStringExact e.value = some b ∧ b.length = 16 ∧
      Prog.run env (certAAGUID c) = .value b) := by
  have hoid : Generated.Core.oidAAGUID = [1, 3, 6, 1, 4, 1, 45724, 1, 1, 4] := rfl
  have hsz : Generated.Core.aaguidSize = 16 := rfl
  cases hf : findExt c [1, 3, 6, 1, 4, 1, 45724, 1, 1, 4] with
  | none => exact .inl ⟨rfl, by simp [certAAGUID, hoid, hf]⟩
  | some e =>
    cases hcr : e.critical with
    | true => exact .inr (.inl ⟨e, rfl, hcr, by simp [certAAGUID, hoid, hf, hcr]⟩)
    | false =>
      cases hb : KeyDesc.octetStringExact e.value with
      | none =>
        refine .inr (.inr (.inl ⟨e, rfl, hcr, ?_, by simp [certAAGUID, hoid, hf, hcr, hb]⟩))
        intro b hb'
        rw [hb] at hb'; cases hb'
      | some b =>
        by_cases hl : b.length = 16
        · exact .inr (.inr (.inr ⟨e, b, rfl, hcr, hb, hl,
            by simp [certAAGUID, hoid, hsz, hf, hcr, hb, hl]⟩))
        · refine .inr (.inr (.inl ⟨e, rfl, hcr, ?_, by simp [certAAGUID, hoid, hsz, hf, hcr, hb, hl]⟩))
          intro b' hb'
          rw [hb] at hb'; cases hb'; exact hl

theorem packedCert_iff (env : Prog.Env) (o : AttObj) (h der : Bytes) (c : CertView) :
    Prog.run env (verifyPackedCert o h der c) = true ↔
      ∃ d acd, Attested o d acd ∧
        CertSigOK env der c (getAlgorithm o.stmt) (o.authData ++ h) (getSignature o.stmt) ∧
        c.version = 3 ∧ c.isCA = false ∧ c.country ≠ [] ∧ c.org ≠ [] ∧
        c.orgUnit = Spec.Att.s "Authenticator Attestation" ∧ c.commonName ≠ [] ∧
        (∀ e, findExt c [1, 3, 6, 1, 4, 1, 45724, 1, 1, 4] = some e →
          e.critical = false ∧ KeyDesc.octetStringExact e.value = some acd.aaguid ∧ acd.aaguid.length = 16) := by
  have hs : Att.s "Authenticator Attestation" = Spec.Att.s "Authenticator Attestation" := rfl
  constructor
  · intro hr
    simp only [verifyPackedCert] at hr
    split at hr
    · cases hr
    next d acd hA =>
      simp only [run_bind, run_guard_eq_true, Bool.not_eq_true', Bool.not_eq_false, ne_eq, Decidable.not_not,
        Bool.not_eq_true, run_certCheckSig, hs] at hr
      obtain ⟨h1, h2, h3, h4, h5, h6, h7, hr⟩ := hr
      refine ⟨d, acd, (attested_iff ..).1 hA, h1, h2, h7, h3, h4, h5, h6, fun e he => ?_⟩
      rcases certAAGUID_spec env c with ⟨hf, _⟩ | ⟨e', hf, _, hv⟩ | ⟨e', hf, _, _, hv⟩ | ⟨e', b, hf, hc, hb, hl, hv⟩ <;>
        rw [he] at hf <;> cases hf <;> rw [hv] at hr
      · cases hr
      · cases hr
      · obtain rfl : b = acd.aaguid := by simpa using hr
        exact ⟨hc, hb, hl⟩
  · rintro ⟨d, acd, hA, h1, h2, h7, h3, h4, h5, h6, h8⟩
    rw [← run_certCheckSig] at h1
    have hv : Prog.run env (certAAGUID c) = .absent ∨ Prog.run env (certAAGUID c) = .value acd.aaguid := by
      rcases certAAGUID_spec env c with ⟨_, hv⟩ | ⟨e, hf, hc, _⟩ | ⟨e, hf, _, hb, _⟩ | ⟨e, b, hf, _, hb, _, hv⟩
      · exact .inl hv
      · rw [(h8 e hf).1] at hc; cases hc
      · exact absurd (h8 e hf).2.2 (hb _ (h8 e hf).2.1)
      · rw [(h8 e hf).2.1] at hb; cases hb; exact .inr hv
    rcases hv with hv | hv <;>
      simp [verifyPackedCert, (attested_iff ..).2 hA, h1, h2, h3, h4, h5, h6, h7, hs, hv]

theorem packedSelf_iff (env : Prog.Env) (o : AttObj) (h : Bytes) :
    Prog.run env (verifyPackedSelf o h) = true ↔
      ∃ d acd k, Attested o d acd ∧ CredKey acd k ∧ getAlgorithm o.stmt = k.alg ∧
        (∃ sc hh, Spec.Cose.schemeOf k.kty k.alg = some (sc, hh) ∧
          env.answer (.sigVerify sc hh k.material (o.authData ++ h) (getSignature o.stmt)) = .bool true) := by
  constructor
  · intro hr
    simp only [verifyPackedSelf] at hr
    split at hr
    · cases hr
    next d acd hA =>
      split at hr
      · cases hr
      next k hK =>
        simp only [run_guard_eq_true, ne_eq, Decidable.not_not, C12.verify_iff] at hr
        exact ⟨d, acd, k, (attested_iff ..).1 hA, (credKey_iff ..).1 hK, hr.1, hr.2⟩
  · rintro ⟨d, acd, k, hA, hK, halg, hv⟩
    simp only [verifyPackedSelf, (attested_iff ..).2 hA, (credKey_iff ..).2 hK, run_guard_eq_true, ne_eq,
      Decidable.not_not, C12.verify_iff]
    exact ⟨halg, hv⟩

theorem x5c_stmtGet {env : Prog.Env} {stmt : List (Bytes × Value)} {cs : List (Bytes × CertView)}
    (hx : X5c env stmt cs) : stmtGet stmt "x5c" ≠ none := by
  obtain ⟨xs, h, _⟩ := hx
  rw [h]; exact fun h => nomatch h

/-- the first entry of `x5c` parses as the first certificate -/
theorem x5c_head_parsed {env : Prog.Env} {stmt : List (Bytes × Value)} {der : Bytes} {c : CertView}
    {rest : List (Bytes × CertView)} (hx : X5c env stmt ((der, c) :: rest)) : env.answer (.x509Parse der) = .cert c := by
  obtain ⟨xs, -, hl⟩ := hx
  cases xs with
  | nil => exact hl.elim
  | cons v vs =>
    cases v with
    | bytes b => obtain ⟨rfl, hp, -⟩ := hl; exact hp
    | _ => exact hl.elim

/-- the statement determines the certificate list -/
theorem x5c_unique {env : Prog.Env} {stmt : List (Bytes × Value)} {cs cs' : List (Bytes × CertView)}
    (hx : X5c env stmt cs) (hx' : X5c env stmt cs') : cs = cs' :=
  Certs.ok.inj (((unmarshal_ok_iff ..).2 hx).symm.trans ((unmarshal_ok_iff ..).2 hx'))

theorem packed_iff (env : Prog.Env) (o : AttObj) (h : Bytes) (res : Result) :
    Prog.run env (verifyPacked o h) = some res ↔ (PackedX5cOK env o h res ∨ PackedSelfOK env o h res) := by
  have hs : Att.s "packed" = Spec.Att.s "packed" := rfl
  constructor
  · intro hr
    simp only [verifyPacked, hs, run_guard_eq_some, ne_eq, Decidable.not_not, run_bind] at hr
    obtain ⟨hfmt, hr⟩ := hr
    split at hr
    next der c rest hc =>
      simp only [run_bind, run_ite, run_pure, Option.ite_none_right_eq_some, Option.some.injEq] at hr
      obtain ⟨d, acd, h1, h2, h3, h4, h5, h6, h7, h8, h9⟩ := (packedCert_iff ..).1 hr.1
      exact .inl ⟨hfmt, der, c, rest, d, acd, (unmarshal_ok_iff ..).1 hc, h1, h2, h3, h4, h5, h6, h7, h8, h9, hr.2.symm⟩
    next hm =>
      simp only [run_bind, run_ite, run_pure, Option.ite_none_right_eq_some, Option.some.injEq] at hr
      obtain ⟨d, acd, k, h1, h2, h3, h4⟩ := (packedSelf_iff ..).1 hr.1
      exact .inr ⟨hfmt, (unmarshal_missing_iff ..).1 hm, d, acd, k, h1, h2, h3, h4, hr.2.symm⟩
    · cases hr
  · rintro (⟨hfmt, der, c, rest, d, acd, hx, h1, h2, h3, h4, h5, h6, h7, h8, h9, rfl⟩ | ⟨hfmt, hno, d, acd, k, h1, h2, h3, h4, rfl⟩)
    · simp only [verifyPacked, hs, hfmt, run_bind, run_pure, (unmarshal_ok_iff ..).2 hx,
        (packedCert_iff ..).2 ⟨d, acd, h1, h2, h3, h4, h5, h6, h7, h8, h9⟩, ne_eq, not_true_eq_false, if_false, if_true]
    · simp only [verifyPacked, hs, hfmt, run_bind, run_pure, (unmarshal_missing_iff ..).2 hno,
        (packedSelf_iff ..).2 ⟨d, acd, k, h1, h2, h3, h4⟩, ne_eq, not_true_eq_false, if_false, if_true]

/-! ### fido-u2f -/

theorem u2f_iff (env : Prog.Env) (o : AttObj) (h : Bytes) (res : Result) :
    Prog.run env (verifyU2F o h) = some res ↔ U2FOK env o h res := by
  constructor
  · intro hr
    simp only [verifyU2F, run_bind] at hr
    split at hr
    next der c hc =>
      split at hr
      next px py hk =>
        split at hr
        · cases hr
        next d acd hA =>
          split at hr
          next alg crv x y hK =>
            simp only [run_bind, run_ite, run_pure, Option.ite_none_left_eq_some, Option.ite_none_right_eq_some,
              Option.some.injEq, u2fCoordinatesFit, Bool.not_eq_true', Bool.not_eq_false, Bool.and_eq_true,
              decide_eq_true_eq, run_certCheckSig] at hr
            obtain ⟨⟨⟨hcrv, hfx⟩, hfy⟩, hsig, rfl⟩ := hr
            exact ⟨der, c, d, acd, alg, crv, x, y, px, py, (unmarshal_ok_iff ..).1 hc, hk,
              (attested_iff ..).1 hA, (credKey_iff ..).1 hK, hcrv, hfx, hfy, hsig, rfl⟩
          · cases hr
      · cases hr
    · cases hr
  · rintro ⟨der, c, d, acd, alg, crv, x, y, px, py, hx, hk, hA, hK, hcrv, hfx, hfy, hsig, rfl⟩
    rw [← run_certCheckSig] at hsig
    simp only [verifyU2F, run_bind, run_pure, (unmarshal_ok_iff ..).2 hx, hk, (attested_iff ..).2 hA,
      (credKey_iff ..).2 hK, u2fCoordinatesFit, hcrv, hfx, hfy, hsig, decide_true, Bool.and_self, Bool.not_true,
      Bool.false_eq_true, if_false, if_true]

/-! ### android-key -/

theorem androidKey_iff (env : Prog.Env) (o : AttObj) (h : Bytes) (res : Result) :
    Prog.run env (verifyAndroidKey o h) = some res ↔ AndroidKeyOK env o h res := by
  have hoid : Generated.Core.oidAndroidKey = [1, 3, 6, 1, 4, 1, 11129, 2, 1, 17] := rfl
  have horg : (Generated.Android.keyOriginGenerated : Int) = 0 := rfl
  have hpur : (Generated.Android.keyMasterPurposeSign : Int) = 2 := rfl
  constructor
  · intro hr
    simp only [verifyAndroidKey, run_bind, hoid, horg, hpur] at hr
    split at hr
    next der c rest hc =>
      split at hr
      · cases hr
      next d acd hA =>
        split at hr
        · cases hr
        next k hK =>
          -- the nested `if`s are taken apart by rewriting, all at once: `split` on them costs twice as much per level
          simp only [run_bind, run_ite, run_pure, Option.ite_none_left_eq_some, Bool.not_eq_true', Bool.not_eq_false,
            run_certCheckSig, keysEqual_iff] at hr
          obtain ⟨hsig, hkeq, hr⟩ := hr
          split at hr
          · cases hr
          next e hf =>
            split at hr
            next kd hkd =>
              simp only [run_ite, run_pure, Option.ite_none_left_eq_some, Option.some.injEq, Bool.not_eq_false,
                Bool.or_eq_true, not_or, Bool.not_eq_true, ne_eq, Decidable.not_not, List.contains_iff_mem] at hr
              obtain ⟨hch, hall, horig, hp, rfl⟩ := hr
              exact ⟨der, c, rest, d, acd, k, e, kd, (unmarshal_ok_iff ..).1 hc, (attested_iff ..).1 hA,
                (credKey_iff ..).1 hK, hsig, hkeq.1, hkeq.2, hf, hkd, hch, hall.1, hall.2, horig, hp, rfl⟩
            · cases hr
    · cases hr
  · rintro ⟨der, c, rest, d, acd, k, e, kd, hx, hA, hK, hsig, hk1, hk2, hf, hkd, hch, ha1, ha2, horig, hp, rfl⟩
    rw [← run_certCheckSig] at hsig
    simp only [verifyAndroidKey, run_bind, run_pure, (unmarshal_ok_iff ..).2 hx, (attested_iff ..).2 hA,
      (credKey_iff ..).2 hK, hsig, (keysEqual_iff ..).2 ⟨hk1, hk2⟩, hoid, horg, hpur, hf, hkd, hch, ha1, ha2, horig,
      List.contains_iff_mem.2 hp, Bool.not_true, Bool.false_eq_true, Bool.or_self, ne_eq, not_true_eq_false, if_false]

/-! ### apple -/

theorem apple_iff (env : Prog.Env) (o : AttObj) (h : Bytes) (res : Result) :
    Prog.run env (verifyApple o h) = some res ↔ AppleOK env o h res := by
  have hoid : Generated.Core.oidAppleNonce = [1, 2, 840, 113635, 100, 8, 2] := rfl
  constructor
  · intro hr
    simp only [verifyApple, run_bind, hoid] at hr
    split at hr
    next der c rest hc =>
      split at hr
      · cases hr
      next d acd hA =>
        split at hr
        · cases hr
        next k hK =>
          simp only [run_bind, run_sha256] at hr
          split at hr
          · cases hr
          next e hf =>
            split at hr
            · cases hr
            next certNonce hn =>
              simp only [run_ite, run_pure, Option.ite_none_left_eq_some, Option.some.injEq, Bool.not_eq_true',
                Bool.not_eq_false, ne_eq, Decidable.not_not, keysEqual_iff] at hr
              obtain ⟨rfl, hkeq, rfl⟩ := hr
              exact ⟨der, c, rest, d, acd, k, e, (unmarshal_ok_iff ..).1 hc, (attested_iff ..).1 hA,
                (credKey_iff ..).1 hK, hf, hn, hkeq.1, hkeq.2, rfl⟩
    · cases hr
  · rintro ⟨der, c, rest, d, acd, k, e, hx, hA, hK, hf, hn, hk1, hk2, rfl⟩
    simp only [verifyApple, run_bind, run_pure, run_sha256, (unmarshal_ok_iff ..).2 hx, (attested_iff ..).2 hA,
      (credKey_iff ..).2 hK, hoid, hf, hn, (keysEqual_iff ..).2 ⟨hk1, hk2⟩, Bool.not_true, Bool.false_eq_true, ne_eq,
      not_true_eq_false, if_false]

/-! ### android-safetynet -/

theorem safetyNet_iff (env : Prog.Env) (o : AttObj) (h : Bytes) (res : Result) :
    Prog.run env (verifySafetyNet o h) = some res ↔ SafetyNetOK env o h res :=
  JwsLemmas.verifySafetyNet_iff env o h res

/-! ### tpm -/

theorem tpm_iff (env : Prog.Env) (o : AttObj) (h : Bytes) (res : Result) :
    Prog.run env (verifyTPM o h) = some res ↔ TpmOK env o h res := by
  have hoid : Generated.Core.oidAIKCertificate = [2, 23, 133, 8, 3] := rfl
  have hgen : Generated.Tpm.generatedValue = 0xFF544347 := rfl
  have htag : Generated.Tpm.tagAttestCertify = 0x8017 := rfl
  constructor
  · intro hr
    simp only [verifyTPM, run_bind, hoid, hgen, htag] at hr
    split at hr
    next certs hc =>
      split at hr
      · cases hr
      next ciRaw hciRaw =>
        simp only [run_bind] at hr
        split at hr
        next ci hci =>
          split at hr
          · cases hr
          next paRaw hpaRaw =>
            split at hr
            next pa hpa =>
              split at hr
              · cases hr
              next d acd hA =>
                split at hr
                · cases hr
                next k hK =>
                  split at hr
                  · cases hr
                  next pk hpk =>
                    simp only [run_bind, run_ite, run_pure, Option.ite_none_left_eq_some, Bool.not_eq_true',
                      Bool.not_eq_false, ne_eq, Decidable.not_not, keysEqual_iff, run_hashIsEqual,
                      C12.algHash_spec] at hr
                    obtain ⟨hkeq, hmagic, htype, hextra, hr⟩ := hr
                    split at hr
                    · cases hr
                    next paEnc hpaEnc =>
                      simp only [run_ite, run_pure, Option.ite_none_left_eq_some, Bool.not_eq_false] at hr
                      obtain ⟨hcert, hr⟩ := hr
                      split at hr
                      next nameAlg nameVal hname =>
                        simp only [run_ite, run_pure, Option.ite_none_left_eq_some, Decidable.not_not] at hr
                        obtain ⟨hnalg, hr⟩ := hr
                        split at hr
                        next hashId hhid =>
                          simp only [run_bind, run_ite, run_pure, Option.ite_none_left_eq_some, Bool.not_eq_false,
                            run_hashIsEqual] at hr
                          obtain ⟨hnameOK, hr⟩ := hr
                          split at hr
                          · cases hr
                          next ciEnc hciEnc =>
                            split at hr
                            · cases hr
                            next der c rest =>
                              simp only [run_bind, run_ite, run_pure, Option.ite_none_left_eq_some,
                                Option.some.injEq, Bool.not_eq_false, Bool.not_eq_true, Decidable.not_not,
                                List.contains_iff_mem, run_certCheckSig, run_hardwareDetailsOK] at hr
                              obtain ⟨hsig, hver, hhw, heku, hca, rfl⟩ := hr
                              exact ⟨der, c, rest, _, ciRaw, ci, paRaw, pa, d, acd, k, pk, paEnc, nameAlg, nameVal,
                                hashId, ciEnc, (unmarshal_ok_iff ..).1 hc, rfl, hciRaw, hci, hpaRaw, hpa,
                                (attested_iff ..).1 hA, (credKey_iff ..).1 hK, hpk, hkeq.1, hkeq.2, hmagic, htype,
                                hextra, hpaEnc, hcert, hname, hnalg, hhid, hnameOK, hciEnc, hsig, hver, hhw, heku,
                                hca, rfl⟩
                        · cases hr
                      · cases hr
            · cases hr
        · cases hr
    · cases hr
  · rintro ⟨der, c, rest, hashes, ciRaw, ci, paRaw, pa, d, acd, k, pk, paEnc, nameAlg, nameVal, hashId, ciEnc,
      hx, rfl, hciRaw, hci, hpaRaw, hpa, hA, hK, hpk, hpk1, hpk2, hmagic, htype, hextra, hpaEnc, hcert, hname, hnalg,
      hhid, hnameOK, hciEnc, hsig, hver, hhw, heku, hca, rfl⟩
    rw [← C12.algHash_spec, ← run_hashIsEqual] at hextra
    rw [← run_hashIsEqual] at hnameOK
    rw [← run_certCheckSig] at hsig
    subst hnalg
    simp only [verifyTPM, run_bind, run_pure, (unmarshal_ok_iff ..).2 hx, hciRaw, hci, hpaRaw, hpa,
      (attested_iff ..).2 hA, (credKey_iff ..).2 hK, hpk, (keysEqual_iff ..).2 ⟨hpk1, hpk2⟩, hgen, htag, hmagic, htype,
      hextra, hpaEnc, hcert, hname, hhid, hnameOK, hciEnc, hsig, hver, (run_hardwareDetailsOK _).2 hhw, hoid,
      List.contains_iff_mem.2 heku, hca, Bool.not_true, Bool.false_eq_true, ne_eq, not_true_eq_false, if_false]

/-! ### the dispatcher

  One row of the dispatch table per lemma: the kernel looks the identifier up, `simp` picks the arm of `Att.verify`. -/

theorem verify_none (o : AttObj) (h : Bytes) (hf : o.fmt = Spec.Att.s "none") : Att.verify o h = verifyNone := by
  have : (Generated.Core.dispatch.find? (fun e => Att.s e.1 == Spec.Att.s "none")).map (·.2) =
      some "VerifyNoneAttestationStatement" := by decide +kernel
  simp only [Att.verify, hf, this]
theorem verify_packed (o : AttObj) (h : Bytes) (hf : o.fmt = Spec.Att.s "packed") : Att.verify o h = verifyPacked o h := by
  have : (Generated.Core.dispatch.find? (fun e => Att.s e.1 == Spec.Att.s "packed")).map (·.2) =
      some "VerifyPackedAttestationStatement" := by decide +kernel
  simp only [Att.verify, hf, this]
theorem verify_u2f (o : AttObj) (h : Bytes) (hf : o.fmt = Spec.Att.s "fido-u2f") : Att.verify o h = verifyU2F o h := by
  have : (Generated.Core.dispatch.find? (fun e => Att.s e.1 == Spec.Att.s "fido-u2f")).map (·.2) =
      some "VerifyFIDOU2FAttestationStatement" := by decide +kernel
  simp only [Att.verify, hf, this]
theorem verify_tpm (o : AttObj) (h : Bytes) (hf : o.fmt = Spec.Att.s "tpm") : Att.verify o h = verifyTPM o h := by
  have : (Generated.Core.dispatch.find? (fun e => Att.s e.1 == Spec.Att.s "tpm")).map (·.2) =
      some "VerifyTPMAttestationStatement" := by decide +kernel
  simp only [Att.verify, hf, this]
theorem verify_androidKey (o : AttObj) (h : Bytes) (hf : o.fmt = Spec.Att.s "android-key") : Att.verify o h = verifyAndroidKey o h := by
  have : (Generated.Core.dispatch.find? (fun e => Att.s e.1 == Spec.Att.s "android-key")).map (·.2) =
      some "VerifyAndroidKeyAttestationStatement" := by decide +kernel
  simp only [Att.verify, hf, this]
theorem verify_apple (o : AttObj) (h : Bytes) (hf : o.fmt = Spec.Att.s "apple") : Att.verify o h = verifyApple o h := by
  have : (Generated.Core.dispatch.find? (fun e => Att.s e.1 == Spec.Att.s "apple")).map (·.2) =
      some "VerifyAppleAttestationStatement" := by decide +kernel
  simp only [Att.verify, hf, this]
theorem verify_safetyNet (o : AttObj) (h : Bytes) (hf : o.fmt = Spec.Att.s "android-safetynet") : Att.verify o h = verifySafetyNet o h := by
  have : (Generated.Core.dispatch.find? (fun e => Att.s e.1 == Spec.Att.s "android-safetynet")).map (·.2) =
      some "VerifyAndroidSafetyNetAttestationStatement" := by decide +kernel
  simp only [Att.verify, hf, this]

/-- the dispatcher: a statement verifies iff its exact format identifier is one of the seven and that format's
    conditions hold -/
theorem verify_iff (env : Prog.Env) (o : AttObj) (h : Bytes) (res : Result) :
    Prog.run env (Att.verify o h) = some res ↔ FormatOK env o h res := by
  constructor
  · intro hr
    by_cases h1 : o.fmt = Spec.Att.s "none"
    · rw [verify_none o h h1, none_iff] at hr; exact .inl ⟨h1, hr⟩
    by_cases h2 : o.fmt = Spec.Att.s "packed"
    · rw [verify_packed o h h2, packed_iff] at hr; exact .inr (.inl ⟨h2, hr⟩)
    by_cases h3 : o.fmt = Spec.Att.s "fido-u2f"
    · rw [verify_u2f o h h3, u2f_iff] at hr; exact .inr (.inr (.inl ⟨h3, hr⟩))
    by_cases h4 : o.fmt = Spec.Att.s "tpm"
    · rw [verify_tpm o h h4, tpm_iff] at hr; exact .inr (.inr (.inr (.inl ⟨h4, hr⟩)))
    by_cases h5 : o.fmt = Spec.Att.s "android-key"
    · rw [verify_androidKey o h h5, androidKey_iff] at hr; exact .inr (.inr (.inr (.inr (.inl ⟨h5, hr⟩))))
    by_cases h6 : o.fmt = Spec.Att.s "apple"
    · rw [verify_apple o h h6, apple_iff] at hr; exact .inr (.inr (.inr (.inr (.inr (.inl ⟨h6, hr⟩)))))
    by_cases h7 : o.fmt = Spec.Att.s "android-safetynet"
    · rw [verify_safetyNet o h h7, safetyNet_iff] at hr; exact .inr (.inr (.inr (.inr (.inr (.inr ⟨h7, hr⟩)))))
    have hnot : o.fmt ∉ Spec.sevenFormats := by
      have hstr : Spec.str = Spec.Att.s := rfl
      simp only [Spec.sevenFormats, List.map_cons, List.map_nil, List.mem_cons, List.not_mem_nil, or_false, not_or, hstr]
      exact ⟨h5, h7, h6, h3, h1, h2, h4⟩
    rw [C08.unknown_fmt_rejected env o h hnot] at hr
    cases hr
  · rintro (⟨hf, hok⟩ | ⟨hf, hok⟩ | ⟨hf, hok⟩ | ⟨hf, hok⟩ | ⟨hf, hok⟩ | ⟨hf, hok⟩ | ⟨hf, hok⟩)
    · rw [verify_none o h hf, none_iff]; exact hok
    · rw [verify_packed o h hf, packed_iff]; exact hok
    · rw [verify_u2f o h hf, u2f_iff]; exact hok
    · rw [verify_tpm o h hf, tpm_iff]; exact hok
    · rw [verify_androidKey o h hf, androidKey_iff]; exact hok
    · rw [verify_apple o h hf, apple_iff]; exact hok
    · rw [verify_safetyNet o h hf, safetyNet_iff]; exact hok

/-! ### what an accepted statement reports, and what was checked for it: one projection per format -/

theorem _root_.WebAuthn.Spec.Att.PackedX5cOK.result {env o h res} (hok : PackedX5cOK env o h res) :
    ∃ der c rest, X5c env o.stmt ((der, c) :: rest) ∧ res = ⟨"Unknown", der :: rest.map (·.1)⟩ ∧
      CertSigOK env der c (getAlgorithm o.stmt) (o.authData ++ h) (getSignature o.stmt) := by
  obtain ⟨der, c, rest, _, _, hx, _, hsig, _, _, _, _, _, _, _, rfl⟩ := hok.body
  exact ⟨der, c, rest, hx, rfl, hsig⟩

theorem _root_.WebAuthn.Spec.Att.PackedSelfOK.result {env o h res} (hok : PackedSelfOK env o h res) :
    res = ⟨"Self", []⟩ := by
  obtain ⟨_, _, _, _, _, _, _, rfl⟩ := hok.body; rfl

theorem _root_.WebAuthn.Spec.Att.U2FOK.result {env o h res} (hok : U2FOK env o h res) :
    ∃ der c rest, X5c env o.stmt ((der, c) :: rest) ∧ res = ⟨"Unknown", der :: rest.map (·.1)⟩ := by
  obtain ⟨der, c, _, _, _, _, _, _, _, _, hx, _, _, _, _, _, _, _, rfl⟩ := hok.body
  exact ⟨der, c, [], hx, rfl⟩

/-- with the certified structure, its binding hash and signature, and the hardware details of the AIK certificate (T8–T10) -/
theorem _root_.WebAuthn.Spec.Att.TpmOK.result {env o h res} (hok : TpmOK env o h res) :
    ∃ der c rest ciRaw ci ciEnc, X5c env o.stmt ((der, c) :: rest) ∧ res = ⟨"AttCA", der :: rest.map (·.1)⟩ ∧
      stmtBytes o.stmt "certInfo" = some ciRaw ∧ Tpm2.certInfo (Prog.run env askHashes) ciRaw = some ci ∧
      env.answer (.hash (Spec.Cose.hashOf (getAlgorithm o.stmt)) (o.authData ++ h)) = .bytes ci.extraData ∧
      ci.encoded = some ciEnc ∧ CertSigOK env der c (getAlgorithm o.stmt) ciEnc (getSignature o.stmt) ∧
      ∃ details, Tpm.detailsFromSan (sanViews c) = some details := by
  obtain ⟨der, c, rest, _, ciRaw, ci, _, _, _, _, _, _, _, _, _, _, ciEnc, hx, rfl, h3, h4, _, _, _, _, _, _, _, _, _, h14,
    _, _, _, _, _, _, h21, hsig, _, hdet, _, _, rfl⟩ := hok.body
  exact ⟨der, c, rest, ciRaw, ci, ciEnc, hx, rfl, h3, h4, h14, h21, hsig, hdet⟩

theorem _root_.WebAuthn.Spec.Att.AndroidKeyOK.result {env o h res} (hok : AndroidKeyOK env o h res) :
    ∃ der c rest, X5c env o.stmt ((der, c) :: rest) ∧ res = ⟨"Basic", der :: rest.map (·.1)⟩ ∧
      CertSigOK env der c (getAlgorithm o.stmt) (o.authData ++ h) (getSignature o.stmt) := by
  obtain ⟨der, c, rest, _, _, _, _, _, hx, _, _, hsig, _, _, _, _, _, _, _, _, _, rfl⟩ := hok.body
  exact ⟨der, c, rest, hx, rfl, hsig⟩

theorem _root_.WebAuthn.Spec.Att.AppleOK.result {env o h res} (hok : AppleOK env o h res) :
    ∃ der c rest e, X5c env o.stmt ((der, c) :: rest) ∧ res = ⟨"AnonCA", der :: rest.map (·.1)⟩ ∧
      findExt c [1, 2, 840, 113635, 100, 8, 2] = some e ∧
      KeyDesc.appleNonce e.value = some (Spec.sha256 env (o.authData ++ h)) := by
  obtain ⟨der, c, rest, _, _, _, e, hx, _, _, hf, hn, _, _, rfl⟩ := hok.body
  exact ⟨der, c, rest, e, hx, rfl, hf, hn⟩

theorem _root_.WebAuthn.Spec.Att.SafetyNetOK.result {env o h res} (hok : SafetyNetOK env o h res) :
    res = ⟨"Basic", []⟩ := by
  obtain ⟨_, _, _, _, _, rfl⟩ := hok.body; rfl

/-! ### the requirements, one per format (property C04) -/

theorem packed_x5c_requirements (env : Prog.Env) (o : AttObj) (h : Bytes) (res : Result)
    (hx : stmtGet o.stmt "x5c" ≠ none) (hr : Prog.run env (verifyPacked o h) = some res) :
    PackedX5cOK env o h res :=
  ((packed_iff env o h res).1 hr).resolve_right fun hok => hx hok.noX5c

theorem packed_self_requirements (env : Prog.Env) (o : AttObj) (h : Bytes) (res : Result)
    (hx : stmtGet o.stmt "x5c" = none) (hr : Prog.run env (verifyPacked o h) = some res) :
    PackedSelfOK env o h res :=
  ((packed_iff env o h res).1 hr).resolve_left fun hok =>
    let ⟨_, _, _, hx5, _⟩ := hok.result
    x5c_stmtGet hx5 hx

theorem u2f_requirements (env : Prog.Env) (o : AttObj) (h : Bytes) (res : Result)
    (hr : Prog.run env (verifyU2F o h) = some res) : U2FOK env o h res := (u2f_iff env o h res).1 hr

theorem tpm_requirements (env : Prog.Env) (o : AttObj) (h : Bytes) (res : Result)
    (hr : Prog.run env (verifyTPM o h) = some res) : TpmOK env o h res := (tpm_iff env o h res).1 hr

/-- T8–T10: an accepted TPM statement's AIK certificate carries, in the first directory name of its SAN, a manufacturer attribute naming a
    registered vendor together with non-empty model and version attributes -/
theorem tpm_hardware_details (env o h res) (hr : Prog.run env (verifyTPM o h) = some res) :
    ∃ der c rest details, res.x5c = der :: rest.map (·.1) ∧ X5c env o.stmt ((der, c) :: rest) ∧
      env.answer (.x509Parse der) = .cert c ∧ Tpm.detailsFromSan (sanViews c) = some details := by
  obtain ⟨der, c, rest, _, _, _, hx, rfl, _, _, _, _, _, details, hdet⟩ := (tpm_requirements env o h res hr).result
  exact ⟨der, c, rest, details, rfl, hx, x5c_head_parsed hx, hdet⟩

theorem androidKey_requirements (env : Prog.Env) (o : AttObj) (h : Bytes) (res : Result)
    (hr : Prog.run env (verifyAndroidKey o h) = some res) : AndroidKeyOK env o h res :=
  (androidKey_iff env o h res).1 hr

theorem apple_requirements (env : Prog.Env) (o : AttObj) (h : Bytes) (res : Result)
    (hr : Prog.run env (verifyApple o h) = some res) : AppleOK env o h res := (apple_iff env o h res).1 hr

theorem safetyNet_requirements (env : Prog.Env) (o : AttObj) (h : Bytes) (res : Result)
    (hr : Prog.run env (verifySafetyNet o h) = some res) : SafetyNetOK env o h res :=
  (safetyNet_iff env o h res).1 hr

/-! ### C05: attestation type and trust path -/

/-- C05: the attestation type reported per format -/
theorem result_type (env : Prog.Env) (o : AttObj) (h : Bytes) (res : Result)
    (hr : Prog.run env (Att.verify o h) = some res) :
    (o.fmt = Spec.Att.s "none" → res.type = "None") ∧ (o.fmt = Spec.Att.s "fido-u2f" → res.type = "Unknown") ∧
    (o.fmt = Spec.Att.s "tpm" → res.type = "AttCA") ∧ (o.fmt = Spec.Att.s "android-key" → res.type = "Basic") ∧
    (o.fmt = Spec.Att.s "android-safetynet" → res.type = "Basic") ∧ (o.fmt = Spec.Att.s "apple" → res.type = "AnonCA") ∧
    (o.fmt = Spec.Att.s "packed" → (res.type = "Self" ∧ stmtGet o.stmt "x5c" = none) ∨
      (res.type = "Unknown" ∧ stmtGet o.stmt "x5c" ≠ none)) := by
  refine ⟨fun hf => ?_, fun hf => ?_, fun hf => ?_, fun hf => ?_, fun hf => ?_, fun hf => ?_, fun hf => ?_⟩
  · rw [verify_none o h hf, none_iff] at hr; rw [hr]
  · rw [verify_u2f o h hf, u2f_iff] at hr; obtain ⟨_, _, _, _, rfl⟩ := hr.result; rfl
  · rw [verify_tpm o h hf, tpm_iff] at hr; obtain ⟨_, _, _, _, _, _, _, rfl, _⟩ := hr.result; rfl
  · rw [verify_androidKey o h hf, androidKey_iff] at hr; obtain ⟨_, _, _, _, rfl, _⟩ := hr.result; rfl
  · rw [verify_safetyNet o h hf, safetyNet_iff] at hr; rw [hr.result]
  · rw [verify_apple o h hf, apple_iff] at hr; obtain ⟨_, _, _, _, _, rfl, _⟩ := hr.result; rfl
  · rw [verify_packed o h hf, packed_iff] at hr
    rcases hr with hok | hok
    · obtain ⟨_, _, _, hx, rfl, _⟩ := hok.result; exact .inr ⟨rfl, x5c_stmtGet hx⟩
    · rw [hok.result]; exact .inl ⟨rfl, hok.noX5c⟩

/-- C05: the trust path, when there is one, is the `x5c` list in order -/
theorem trust_path_is_x5c (env : Prog.Env) (o : AttObj) (h : Bytes) (res : Result)
    (hr : Prog.run env (Att.verify o h) = some res) (hne : res.x5c ≠ []) :
    ∃ certs, X5c env o.stmt certs ∧ res.x5c = certs.map (·.1) := by
  rcases (verify_iff env o h res).1 hr with ⟨_, hok⟩ | ⟨_, hok | hok⟩ | ⟨_, hok⟩ | ⟨_, hok⟩ | ⟨_, hok⟩ | ⟨_, hok⟩ |
    ⟨_, hok⟩
  · rw [NoneOK] at hok; rw [hok] at hne; exact absurd rfl hne
  · obtain ⟨_, _, _, hx, rfl, _⟩ := hok.result; exact ⟨_, hx, rfl⟩
  · rw [hok.result] at hne; exact absurd rfl hne
  · obtain ⟨_, _, _, hx, rfl⟩ := hok.result; exact ⟨_, hx, rfl⟩
  · obtain ⟨_, _, _, _, _, _, hx, rfl, _⟩ := hok.result; exact ⟨_, hx, rfl⟩
  · obtain ⟨_, _, _, hx, rfl, _⟩ := hok.result; exact ⟨_, hx, rfl⟩
  · obtain ⟨_, _, _, _, hx, rfl, _⟩ := hok.result; exact ⟨_, hx, rfl⟩
  · rw [hok.result] at hne; exact absurd rfl hne

end WebAuthn.C04
