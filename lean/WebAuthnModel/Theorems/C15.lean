import WebAuthnModel.Model.Fido
import WebAuthnModel.Proofs.JwsLemmas
/-
  C15 — AAGUID text form round trips (`AAGUID.String` / `uuid.Parse`) and `UnmarshalMetadataBLOBPayload`.
-/
namespace WebAuthn.C15
open WebAuthn

/-! ### hexadecimal digits -/

theorem xval_hexLower : ∀ n, n < 16 → Fido.xval (Fido.hexLower n) = some n := by decide

theorem xtob_hex (b : UInt8) : Fido.xtob (Fido.hexLower (b.toNat / 16)) (Fido.hexLower (b.toNat % 16)) = some b := by
  have hb : b.toNat < 256 := b.toNat_lt
  unfold Fido.xtob
  rw [xval_hexLower _ (by omega), xval_hexLower _ (by omega)]
  show some (UInt8.ofNat (b.toNat / 16 * 16 + b.toNat % 16)) = some b
  rw [Nat.div_add_mod', UInt8.ofNat_toNat]

theorem hexBytes_cons (b : UInt8) (a : Bytes) :
    Fido.hexBytes (b :: a) = Fido.hexLower (b.toNat / 16) :: Fido.hexLower (b.toNat % 16) :: Fido.hexBytes a := rfl

theorem hexBytes_nil : Fido.hexBytes [] = [] := rfl

theorem hexBytes_length (a : Bytes) : (Fido.hexBytes a).length = 2 * a.length := by
  induction a with
  | nil => rfl
  | cons b a ih => rw [hexBytes_cons, List.length_cons, List.length_cons, List.length_cons, ih]; omega

theorem parseHexPairs_cons (x y : UInt8) (rest : Bytes) :
    Fido.parseHexPairs (x :: y :: rest) =
      (Fido.xtob x y).bind fun v => (Fido.parseHexPairs rest).bind fun r => some (v :: r) := by
  rw [Fido.parseHexPairs]; rfl

theorem parseHexPairs_hexBytes (a : Bytes) : Fido.parseHexPairs (Fido.hexBytes a) = some a := by
  induction a with
  | nil => rfl
  | cons b a ih => rw [hexBytes_cons, parseHexPairs_cons, xtob_hex, ih]; rfl

theorem parseHexPairs_length (s v : Bytes) (h : Fido.parseHexPairs s = some v) : s.length = 2 * v.length := by
  induction s using Fido.parseHexPairs.induct generalizing v with
  | case1 => cases h; rfl
  | case2 x => rw [Fido.parseHexPairs] at h; cases h
  | case3 x y rest ih =>
    rw [parseHexPairs_cons] at h
    cases hx : Fido.xtob x y with
    | none => rw [hx] at h; cases h
    | some w =>
      cases hr : Fido.parseHexPairs rest with
      | none => rw [hx, hr] at h; cases h
      | some r =>
        rw [hx, hr] at h
        cases h
        have := ih r hr
        simp only [List.length_cons, this]; omega


/-! ### round trips -/

/-- the text after a segment of known length: `drop` and `getD` step over the segment -/
theorem drop_seg (H t : Bytes) (m : Nat) (h : H.length ≤ m) : (H ++ t).drop m = t.drop (m - H.length) := by
  rw [List.drop_append, List.drop_of_length_le h, List.nil_append]

theorem getD_seg (H t : Bytes) (m : Nat) (d : UInt8) (h : H.length ≤ m) : (H ++ t).getD m d = t.getD (m - H.length) d := by
  rw [List.getD_eq_getElem?_getD, List.getD_eq_getElem?_getD, List.getElem?_append_right h]

theorem parseCore_join (H1 H2 H3 H4 H5 : Bytes) (l1 : H1.length = 8) (l2 : H2.length = 4) (l3 : H3.length = 4)
    (l4 : H4.length = 4) (l5 : H5.length = 12) :
    Fido.parseCore (H1 ++ Fido.dash :: (H2 ++ Fido.dash :: (H3 ++ Fido.dash :: (H4 ++ Fido.dash :: H5)))) =
      (Fido.parseHexPairs H1).bind fun a => (Fido.parseHexPairs H2).bind fun b => (Fido.parseHexPairs H3).bind fun c =>
        (Fido.parseHexPairs H4).bind fun d => (Fido.parseHexPairs H5).bind fun e => some (a ++ b ++ c ++ d ++ e) := by
  have t1 : ∀ t : Bytes, (H1 ++ t).take 8 = H1 := fun t => List.take_left' l1
  have t2 : ∀ t : Bytes, (H2 ++ t).take 4 = H2 := fun t => List.take_left' l2
  have t3 : ∀ t : Bytes, (H3 ++ t).take 4 = H3 := fun t => List.take_left' l3
  have t4 : ∀ t : Bytes, (H4 ++ t).take 4 = H4 := fun t => List.take_left' l4
  have t5 : H5.take 12 = H5 := List.take_of_length_le (by omega)
  simp only [Fido.parseCore, drop_seg, getD_seg, l1, l2, l3, l4, Nat.reduceLeDiff, Nat.reduceSub, List.drop_succ_cons,
    List.drop_zero, List.getD_cons_succ, List.getD_cons_zero, t1, t2, t3, t4, t5, ne_eq, not_true_eq_false, or_self,
    if_false, Option.bind_eq_bind, Option.pure_def]

theorem parseCore_toString (a : Bytes) (h : a.length = 16) : Fido.parseCore (Fido.toString a) = some a := by
  have e : a.take 4 ++ (a.drop 4).take 2 ++ (a.drop 6).take 2 ++ (a.drop 8).take 2 ++ a.drop 10 = a := by
    have d6 : a.drop 6 = (a.drop 4).drop 2 := by rw [List.drop_drop]
    have d8 : a.drop 8 = (a.drop 6).drop 2 := by rw [List.drop_drop]
    have d10 : a.drop 10 = (a.drop 8).drop 2 := by rw [List.drop_drop]
    simp only [List.append_assoc]
    rw [d10, List.take_append_drop, d8, List.take_append_drop, d6, List.take_append_drop, List.take_append_drop]
  simp only [Fido.toString, List.append_assoc, List.cons_append, List.nil_append]
  rw [parseCore_join, parseHexPairs_hexBytes, parseHexPairs_hexBytes, parseHexPairs_hexBytes, parseHexPairs_hexBytes,
    parseHexPairs_hexBytes]
  · exact congrArg some e
  all_goals simp only [hexBytes_length, List.length_take, List.length_drop, h] <;> rfl


theorem toString_length (a : Bytes) (h : a.length = 16) : (Fido.toString a).length = 36 := by
  simp only [Fido.toString, List.length_append, hexBytes_length, List.length_take, List.length_drop, List.length_cons,
    List.length_nil, h]
  rfl

/-- AAGUIDs round-trip through their textual form, for all 2^128 values -/
theorem aaguid_roundtrip (a : Bytes) (h : a.length = 16) : Fido.parse (Fido.toString a) = some a := by
  unfold Fido.parse
  rw [if_pos (toString_length a h)]
  exact parseCore_toString a h

theorem urn_eq : Bytes.ofString "urn:uuid:" = [117, 114, 110, 58, 117, 117, 105, 100, 58] := by decide +kernel

/-- the other forms uuid.Parse accepts denote the same value -/
theorem parse_urn (a : Bytes) (h : a.length = 16) : Fido.parse (Bytes.ofString "urn:uuid:" ++ Fido.toString a) = some a := by
  have hl : (Bytes.ofString "urn:uuid:" ++ Fido.toString a).length = 45 := by
    rw [List.length_append, toString_length a h, urn_eq]; rfl
  have h9 : (Bytes.ofString "urn:uuid:").length = 9 := by rw [urn_eq]; rfl
  have ht : (Bytes.ofString "urn:uuid:" ++ Fido.toString a).take 9 = Bytes.ofString "urn:uuid:" := by
    rw [← h9]; exact List.take_left
  have hd : (Bytes.ofString "urn:uuid:" ++ Fido.toString a).drop 9 = Fido.toString a := by
    rw [← h9]; exact List.drop_left
  have hm : (Bytes.ofString "urn:uuid:").map Fido.asciiLower = Bytes.ofString "urn:uuid:" := by
    rw [urn_eq]; decide
  unfold Fido.parse
  rw [hl, if_neg (by decide), if_pos rfl, ht, hd, hm, if_pos rfl]
  exact parseCore_toString a h

theorem parse_braces (a : Bytes) (h : a.length = 16) (l r : UInt8) : Fido.parse ([l] ++ Fido.toString a ++ [r]) = some a := by
  have h36 := toString_length a h
  have hl : ([l] ++ Fido.toString a ++ [r]).length = 38 := by
    simp only [List.length_append, List.length_cons, List.length_nil, h36]
  have hd : (([l] ++ Fido.toString a ++ [r]).drop 1).take 36 = Fido.toString a := by
    rw [List.append_assoc, List.singleton_append, List.drop_succ_cons, List.drop_zero, ← h36]
    exact List.take_left
  unfold Fido.parse
  rw [hl, if_neg (by decide), if_neg (by decide), if_pos rfl, hd]
  exact parseCore_toString a h

theorem parse_raw_hex (a : Bytes) (h : a.length = 16) : Fido.parse (Fido.hexBytes a) = some a := by
  have hl : (Fido.hexBytes a).length = 32 := by rw [hexBytes_length, h]
  unfold Fido.parse
  rw [hl, if_neg (by decide), if_neg (by decide), if_neg (by decide), if_pos rfl]
  exact parseHexPairs_hexBytes a


theorem parseCore_length (s v : Bytes) (hl : s.length = 36) (h : Fido.parseCore s = some v) : v.length = 16 := by
  unfold Fido.parseCore at h
  split at h
  · cases h
  · simp only [Option.bind_eq_bind, Option.pure_def, Option.bind_eq_some_iff, Option.some.injEq] at h
    obtain ⟨a, ha, b, hb, c, hc, d, hd, e, he, rfl⟩ := h
    have la := parseHexPairs_length _ _ ha
    have lb := parseHexPairs_length _ _ hb
    have lc := parseHexPairs_length _ _ hc
    have ld := parseHexPairs_length _ _ hd
    have le := parseHexPairs_length _ _ he
    simp only [List.length_take, List.length_drop, hl] at la lb lc ld le
    simp only [List.length_append]
    omega

theorem parse_rejects_length (s : Bytes) (h : s.length ≠ 36 ∧ s.length ≠ 45 ∧ s.length ≠ 38 ∧ s.length ≠ 32) :
    Fido.parse s = none := by
  unfold Fido.parse
  rw [if_neg h.1, if_neg h.2.1, if_neg h.2.2.1, if_neg h.2.2.2]

/-- whatever parses has 16 bytes; other lengths are rejected -/
theorem parse_length (s v : Bytes) (h : Fido.parse s = some v) : v.length = 16 := by
  by_cases h36 : s.length = 36
  · rw [Fido.parse, if_pos h36] at h; exact parseCore_length s v h36 h
  by_cases h45 : s.length = 45
  · rw [Fido.parse, if_neg h36, if_pos h45] at h
    split at h
    · exact parseCore_length _ v (by rw [List.length_drop, h45]) h
    · cases h
  by_cases h38 : s.length = 38
  · rw [Fido.parse, if_neg h36, if_neg h45, if_pos h38] at h
    exact parseCore_length _ v (by rw [List.length_take, List.length_drop, h38]; rfl) h
  by_cases h32 : s.length = 32
  · rw [Fido.parse, if_neg h36, if_neg h45, if_neg h38, if_pos h32] at h
    have := parseHexPairs_length _ _ h
    omega
  · rw [parse_rejects_length s ⟨h36, h45, h38, h32⟩] at h; cases h

/-- textual form is injective -/
theorem toString_injective (a b : Bytes) (ha : a.length = 16) (hb : b.length = 16)
    (h : Fido.toString a = Fido.toString b) : a = b := by
  have h1 := aaguid_roundtrip a ha
  rw [h, aaguid_roundtrip b hb] at h1
  exact (Option.some.inj h1).symm


/-! ### metadata BLOB -/

/-- pool configuration: default is the embedded root; the last WithRootCA wins -/
theorem blob_default_pool : Fido.configPool [] = .default := rfl

theorem blob_pool_last_wins (opts : List Fido.Pool) (p : Fido.Pool) : Fido.configPool (opts ++ [p]) = p := by
  unfold Fido.configPool
  rw [List.foldl_append]; rfl

/-- `headerChains` succeeds iff every header in the range has a valid chain -/
theorem headerChains_some (env : Prog.Env) (raw : Bytes) (pool n i : Nat) :
    (∃ r, Prog.run env (Fido.headerChains raw pool n i) = some r) ↔
      ∀ j, i ≤ j → j < i + n → ∃ leaf, env.answer (.jwsChain raw j pool) = .bytes leaf := by
  induction n generalizing i with
  | zero => exact ⟨fun _ j h1 h2 => by omega, fun _ => ⟨none, rfl⟩⟩
  | succ n ih =>
    have step : (∃ r, Prog.run env (Fido.headerChains raw pool (n + 1) i) = some r) ↔
        (∃ leaf, env.answer (.jwsChain raw i pool) = .bytes leaf) ∧
          ∃ r, Prog.run env (Fido.headerChains raw pool n (i + 1)) = some r := by
      simp only [Fido.headerChains, Prog.run_bind, Prog.run_query]
      cases env.answer (.jwsChain raw i pool) with
      | bytes leaf => simp only [Prog.run_bind]; cases Prog.run env (Fido.headerChains raw pool n (i + 1)) <;> simp
      | _ => simp
    rw [step, ih]
    constructor
    · rintro ⟨h0, h⟩ j h1 h2
      rcases Nat.eq_or_lt_of_le h1 with rfl | h1
      · exact h0
      · exact h j h1 (by omega)
    · exact fun h => ⟨h i (Nat.le_refl _) (by omega), fun j h1 h2 => h j (by omega) (by omega)⟩

theorem firstLeaf_iff (env : Prog.Env) (raw : Bytes) (pool n : Nat) (leaf : Bytes) :
    Prog.run env (Fido.firstLeaf raw pool n) = some leaf ↔ 0 < n ∧ env.answer (.jwsChain raw 0 pool) = .bytes leaf := by
  simp only [Fido.firstLeaf, Prog.run_guard_eq_some, Prog.run_bind, Prog.run_query, Nat.pos_iff_ne_zero]
  cases env.answer (.jwsChain raw 0 pool) <;> simp

/-- a payload is returned iff the BLOB parses with n ≥ 1 headers, EVERY header's chain validates against the CONFIGURED pool, and the
    signature/claims check under the leaf of header 0's first chain yields exactly that payload -/
theorem blobOpaque_iff (env : Prog.Env) (raw : Bytes) (pool : Nat) (payload : Bytes) :
    Prog.run env (Fido.unmarshalBlobOpaque raw pool) = some payload ↔
      ∃ n, env.answer (.jwsHeaders raw) = .nat n ∧ 0 < n ∧
        (∀ i, i < n → ∃ leaf, env.answer (.jwsChain raw i pool) = .bytes leaf) ∧
        ∃ leaf0, env.answer (.jwsChain raw 0 pool) = .bytes leaf0 ∧
          env.answer (.jwsClaims raw leaf0) = .bytes payload := by
  constructor
  · intro hr
    simp only [Fido.unmarshalBlobOpaque, Prog.run_bind, Prog.run_query] at hr
    split at hr
    next n hh =>
      simp only [Prog.run_bind] at hr
      split at hr
      · cases hr
      next r hc =>
        simp only [Prog.run_bind] at hr
        split at hr
        · cases hr
        next leaf hl =>
          obtain ⟨hn, hl⟩ := (firstLeaf_iff ..).1 hl
          simp only [Prog.run_bind, Prog.run_query] at hr
          split at hr
          next p hcl =>
            cases hr
            exact ⟨n, hh, hn, fun i hi => (headerChains_some env raw pool n 0).1 ⟨r, hc⟩ i (Nat.zero_le _) (by omega),
              leaf, hl, hcl⟩
          · cases hr
    · cases hr
  · rintro ⟨n, hh, hn, hall, leaf0, hl, hcl⟩
    obtain ⟨r, hr⟩ := (headerChains_some env raw pool n 0).2 fun j _ h2 => hall j (by omega)
    simp [Fido.unmarshalBlobOpaque, hh, hr, (firstLeaf_iff ..).2 ⟨hn, hl⟩, hcl]

/-- consequences named in the property -/
theorem blobOpaque_reject_unparsable (env : Prog.Env) (raw : Bytes) (pool : Nat)
    (h : ∀ n, env.answer (.jwsHeaders raw) ≠ .nat n) : Prog.run env (Fido.unmarshalBlobOpaque raw pool) = none :=
  Option.eq_none_iff_forall_ne_some.2 fun payload hr => by
    obtain ⟨n, hn, _⟩ := (blobOpaque_iff env raw pool payload).1 hr
    exact absurd hn (h n)

theorem blobOpaque_reject_bad_chain (env : Prog.Env) (raw : Bytes) (pool : Nat) (n i : Nat)
    (hn : env.answer (.jwsHeaders raw) = .nat n) (hi : i < n)
    (h : ∀ leaf, env.answer (.jwsChain raw i pool) ≠ .bytes leaf) :
    Prog.run env (Fido.unmarshalBlobOpaque raw pool) = none :=
  Option.eq_none_iff_forall_ne_some.2 fun payload hr => by
    obtain ⟨n', hn', _, hall, _⟩ := (blobOpaque_iff env raw pool payload).1 hr
    rw [hn] at hn'
    cases hn'
    obtain ⟨leaf, hleaf⟩ := hall i hi
    exact absurd hleaf (h leaf)

theorem blobOpaque_reject_no_headers (env : Prog.Env) (raw : Bytes) (pool : Nat)
    (hn : env.answer (.jwsHeaders raw) = .nat 0) : Prog.run env (Fido.unmarshalBlobOpaque raw pool) = none :=
  Option.eq_none_iff_forall_ne_some.2 fun payload hr => by
    obtain ⟨n', hn', hpos, _⟩ := (blobOpaque_iff env raw pool payload).1 hr
    rw [hn] at hn'
    cases hn'
    exact absurd hpos (Nat.lt_irrefl 0)

theorem blobOpaque_reject_bad_signature (env : Prog.Env) (raw : Bytes) (pool : Nat)
    (h : ∀ leaf p, env.answer (.jwsClaims raw leaf) ≠ .bytes p) : Prog.run env (Fido.unmarshalBlobOpaque raw pool) = none :=
  Option.eq_none_iff_forall_ne_some.2 fun payload hr => by
    obtain ⟨_, _, _, _, leaf0, _, hcl⟩ := (blobOpaque_iff env raw pool payload).1 hr
    exact absurd hcl (h leaf0 payload)


/-! ### the compact serialisation through the Lean JWS model -/

/-- what makes `UnmarshalMetadataBLOBPayload` return `payload` under the configured pool (code `pool`).
    * compact serialisation: the token parses (`Jws.parse`), every `x5c` entry is a certificate, there is at least one, the first one
      validates against the CONFIGURED pool with the others as intermediates, go-jose reaches the signature check and the signature over
      the signing input verifies under that first certificate's key with the primitive the header's `alg` names for that key kind
      (`Jws.SignedBy`, Model/JwsVerify.lean), and the PAYLOAD SEGMENT OF THE TOKEN decodes to `payload`;
    * the forms the Lean model does not cover: the dependency's own view, as before. -/
inductive BlobOK (env : Prog.Env) (raw : Bytes) (pool : Nat) (payload : Bytes) : Prop where
  | compact (c : Jws.Compact) (leaf : Bytes) (rest : List Bytes)
      (parsed : Jws.parse raw = .ok c)
      (chain : c.x5c = leaf :: rest)
      (certs : ∀ d ∈ c.x5c, ∃ cv, env.answer (.x509Parse d) = .cert cv)
      (leafCert : CertView) (leafParsed : env.answer (.x509Parse leaf) = .cert leafCert)
      (trusted : env.answer (.x509VerifyPool leaf rest pool) = .bool true)
      (signed : Jws.SignedBy env raw c leaf leafCert.key)
      (decoded : env.answer (.blobPayload c.payload) = .bytes payload)
  | opaque (n : Nat) (leaf0 : Bytes)
      (unmodelled : Jws.parse raw = .unmodelled)
      (headers : env.answer (.jwsHeaders raw) = .nat n) (pos : 0 < n)
      (chains : ∀ i, i < n → ∃ leaf, env.answer (.jwsChain raw i pool) = .bytes leaf)
      (first : env.answer (.jwsChain raw 0 pool) = .bytes leaf0)
      (claims : env.answer (.jwsClaims raw leaf0) = .bytes payload)

theorem run_askBool (env : Prog.Env) (q : Ask) :
    Prog.run env (Fido.askBool q) = true ↔ env.answer q = .bool true := Att.run_askBool env q

/-- `Fido.parseChain` succeeds exactly when every entry parses, returning the views in order -/
def ChainViews (env : Prog.Env) : List Bytes → List CertView → Prop
  | [], [] => True
  | d :: ds, c :: cs => env.answer (.x509Parse d) = .cert c ∧ ChainViews env ds cs
  | _, _ => False

/-- `ChainViews` is the successful run of `List.mapM` with the certificate parser as the step -/
theorem chainViews_iff_mapM (env : Prog.Env) (ds : List Bytes) (cs : List CertView) :
    ChainViews env ds cs ↔ ds.mapM (fun der => Prog.run env (Att.askCert der)) = some cs := by
  induction ds generalizing cs with
  | nil => cases cs <;> simp [ChainViews]
  | cons der rest ih =>
    rw [Prog.mapM_cons_eq_some]
    cases cs with
    | nil => simp [ChainViews]
    | cons c cs =>
      simp only [ChainViews, ih, Att.run_askCert, List.cons.injEq]
      constructor
      · rintro ⟨h1, h2⟩; exact ⟨_, _, h1, h2, rfl, rfl⟩
      · rintro ⟨_, _, h1, h2, rfl, rfl⟩; exact ⟨h1, h2⟩

theorem parseChain_run (env : Prog.Env) (ds : List Bytes) (cs : List CertView) :
    Prog.run env (Fido.parseChain ds) = some cs ↔ ChainViews env ds cs := by
  rw [chainViews_iff_mapM, Prog.run_traverse env Fido.parseChain _ rfl]
  intro der rest
  simp only [Fido.parseChain, Att.askCert, Prog.run_bind, Prog.run_query]
  cases env.answer (.x509Parse der) with
  | cert c => simp only [Prog.run_bind]; cases Prog.run env (Fido.parseChain rest) <;> rfl
  | _ => rfl

theorem chainViews_all (env : Prog.Env) (ds : List Bytes) (cs : List CertView) (h : ChainViews env ds cs) :
    ∀ d ∈ ds, ∃ cv, env.answer (.x509Parse d) = .cert cv := fun d hd =>
  let ⟨cv, hcv⟩ := Prog.mapM_isSome_iff.1 ⟨cs, (chainViews_iff_mapM ..).1 h⟩ d hd
  ⟨cv, (Att.run_askCert ..).1 hcv⟩

theorem chainViews_of_all (env : Prog.Env) (ds : List Bytes) (h : ∀ d ∈ ds, ∃ cv, env.answer (.x509Parse d) = .cert cv) :
    ∃ cs, ChainViews env ds cs :=
  let ⟨cs, hcs⟩ := Prog.mapM_isSome_iff.2 fun d hd => let ⟨cv, hcv⟩ := h d hd; ⟨cv, (Att.run_askCert ..).2 hcv⟩
  ⟨cs, (chainViews_iff_mapM ..).2 hcs⟩

/-- the compact branch -/
theorem blobCompact_iff (env : Prog.Env) (raw : Bytes) (c : Jws.Compact) (pool : Nat) (payload : Bytes) :
    Prog.run env (Fido.unmarshalBlobCompact raw c pool) = some payload ↔
      ∃ leaf rest leafCert cs, c.x5c = leaf :: rest ∧ ChainViews env c.x5c (leafCert :: cs) ∧
        env.answer (.x509VerifyPool leaf rest pool) = .bool true ∧ Jws.SignedBy env raw c leaf leafCert.key ∧
        env.answer (.blobPayload c.payload) = .bytes payload := by
  constructor
  · intro hr
    simp only [Fido.unmarshalBlobCompact, Prog.run_bind] at hr
    split at hr
    · cases hr
    next leafCert cs leaf rest hp hx =>
      simp only [Prog.run_guard_eq_some, Prog.run_bind, Prog.run_query, Bool.not_eq_true', Bool.not_eq_false] at hr
      obtain ⟨hv, hs, hr⟩ := hr
      refine ⟨leaf, rest, leafCert, cs, hx, (parseChain_run ..).1 hp, (run_askBool ..).1 hv,
        (JwsLemmas.run_signatureOK ..).1 hs, ?_⟩
      split at hr
      next p hb => cases hr; exact hb
      · cases hr
    · cases hr
  · rintro ⟨leaf, rest, leafCert, cs, hx, hcv, hv, hs, hb⟩
    have hp := (parseChain_run ..).2 hcv
    rw [hx] at hp
    simp [Fido.unmarshalBlobCompact, hx, hp, (run_askBool ..).2 hv, (JwsLemmas.run_signatureOK ..).2 hs, hb]

/-- a payload is returned iff `BlobOK` under the LAST configured pool (the default root when no option is given) -/
theorem blob_iff (env : Prog.Env) (raw : Bytes) (opts : List Fido.Pool) (payload : Bytes) :
    Prog.run env (Fido.unmarshalBlob raw opts) = some payload ↔ BlobOK env raw (Fido.configPool opts).code payload := by
  constructor
  · intro hr
    simp only [Fido.unmarshalBlob] at hr
    split at hr
    · cases hr
    next hp =>
      obtain ⟨n, hh, hn, hall, leaf0, hl, hcl⟩ := (blobOpaque_iff ..).1 hr
      exact .opaque n leaf0 hp hh hn hall hl hcl
    next c hp =>
      obtain ⟨leaf, rest, leafCert, cs, hx, hc, hv, hs, hb⟩ := (blobCompact_iff ..).1 hr
      refine .compact c leaf rest hp hx (chainViews_all env _ _ hc) leafCert ?_ hv hs hb
      rw [hx] at hc
      exact hc.1
  · intro h
    cases h with
    | compact c leaf rest hp hx hc leafCert hl hv hs hb =>
      simp only [Fido.unmarshalBlob, hp]
      obtain ⟨cs, hcs⟩ := chainViews_of_all env _ hc
      -- the views found for the chain start with the leaf's: both are the answer to the same question
      match cs, hx ▸ hcs with
      | c0 :: cs0, hcs' =>
        obtain rfl : leafCert = c0 := Resp.cert.inj (hl.symm.trans hcs'.1)
        exact (blobCompact_iff ..).2 ⟨leaf, rest, leafCert, cs0, hx, hcs, hv, hs, hb⟩
    | «opaque» n leaf0 hp hh hn hall hl hcl =>
      simp only [Fido.unmarshalBlob, hp]
      exact (blobOpaque_iff ..).2 ⟨n, hh, hn, hall, leaf0, hl, hcl⟩

/-- the payload returned is the decoding of the token's own payload segment, and the signature that was checked — with the primitive
    the header names, under the first certificate's key — is over the signing input, which contains that segment and determines it
    (`Compact.signingInput` = base64url(protected) "." base64url(payload), `C04Jws.signingInput_inj`) -/
theorem blob_payload_is_signed (env : Prog.Env) (raw : Bytes) (opts : List Fido.Pool) (payload : Bytes) (c : Jws.Compact)
    (hp : Jws.parse raw = .ok c) (h : Prog.run env (Fido.unmarshalBlob raw opts) = some payload) :
    env.answer (.blobPayload c.payload) = .bytes payload ∧
    ∃ leaf rest leafCert, c.x5c = leaf :: rest ∧ env.answer (.x509Parse leaf) = .cert leafCert ∧
      Jws.SignedBy env raw c leaf leafCert.key ∧
      env.answer (.x509VerifyPool leaf rest (Fido.configPool opts).code) = .bool true := by
  rw [blob_iff] at h
  cases h with
  | compact c' leaf rest parsed hx hc leafCert hl hv hs hb =>
    rw [hp] at parsed; cases parsed
    exact ⟨hb, leaf, rest, leafCert, hx, hl, hs, hv⟩
  | «opaque» n leaf0 unmodelled => rw [hp] at unmodelled; cases unmodelled

theorem ite_ne {α} {c : Prop} [Decidable c] {a b x : α} (ha : a ≠ x) (hb : b ≠ x) : (if c then a else b) ≠ x := by
  split <;> assumption

/-- go-jose is asked as a whole only for a key the certificate view does not describe: every leaf of the plan tables is a
    primitive or a refusal -/
theorem verifyPlan_ne_opaque (alg : Bytes) {key : KeyMat} (hk : key ≠ .other) (sig : Bytes) :
    Jws.verifyPlan alg key sig ≠ .opaque := by
  cases key with
  | other => exact absurd rfl hk
  | rsa n e => exact ite_ne nofun (ite_ne nofun (ite_ne nofun (ite_ne nofun (ite_ne nofun (ite_ne nofun nofun)))))
  | ec crv x y =>
    exact ite_ne (ite_ne nofun nofun) (ite_ne (ite_ne nofun nofun) (ite_ne (ite_ne nofun nofun) nofun))
  | ed k => exact ite_ne nofun nofun

/-- with a key the certificate view describes (RSA, EC on P-256/384/521, Ed25519) the check is the named primitive over the signing input -/
theorem signedBy_primitive (env : Prog.Env) (raw : Bytes) (c : Jws.Compact) (leaf : Bytes) (key : KeyMat) (hk : key ≠ .other)
    (h : Jws.SignedBy env raw c leaf key) :
    ∃ sc hh sg, Jws.verifyPlan c.alg key c.signature = .primitive sc hh sg ∧
      env.answer (.sigVerify sc hh key c.signingInput sg) = .bool true := by
  obtain ⟨_, h2⟩ := h
  cases hpl : Jws.verifyPlan c.alg key c.signature with
  | reject => rw [hpl] at h2; exact h2.elim
  | primitive sc hh sg => rw [hpl] at h2; exact ⟨sc, hh, sg, rfl, h2⟩
  | «opaque» => exact absurd hpl (verifyPlan_ne_opaque c.alg hk c.signature)

/-- consequences named in the property -/
theorem blob_reject_unparsable (env : Prog.Env) (raw : Bytes) (opts : List Fido.Pool) (h : Jws.parse raw = .error) :
    Prog.run env (Fido.unmarshalBlob raw opts) = none :=
  Option.eq_none_iff_forall_ne_some.2 fun payload hr => by
    rw [blob_iff] at hr
    cases hr with
    | compact c leaf rest parsed => rw [h] at parsed; cases parsed
    | «opaque» n leaf0 unmodelled => rw [h] at unmodelled; cases unmodelled

/-- no certificate chain in the protected header -/
theorem blob_reject_missing_chain (env : Prog.Env) (raw : Bytes) (opts : List Fido.Pool) (c : Jws.Compact)
    (hp : Jws.parse raw = .ok c) (h : c.x5c = []) : Prog.run env (Fido.unmarshalBlob raw opts) = none :=
  Option.eq_none_iff_forall_ne_some.2 fun payload hr => by
    obtain ⟨_, leaf, rest, _, hx, _⟩ := blob_payload_is_signed env raw opts payload c hp hr
    rw [h] at hx; cases hx

/-- the chain does not validate against the configured pool (another root, expired, reordered, a CA constraint violated) -/
theorem blob_reject_bad_chain (env : Prog.Env) (raw : Bytes) (opts : List Fido.Pool) (c : Jws.Compact) (leaf : Bytes) (rest : List Bytes)
    (hp : Jws.parse raw = .ok c) (hx : c.x5c = leaf :: rest)
    (h : env.answer (.x509VerifyPool leaf rest (Fido.configPool opts).code) ≠ .bool true) :
    Prog.run env (Fido.unmarshalBlob raw opts) = none :=
  Option.eq_none_iff_forall_ne_some.2 fun payload hr => by
    obtain ⟨_, leaf', rest', _, hx', _, _, hv⟩ := blob_payload_is_signed env raw opts payload c hp hr
    rw [hx] at hx'; cases hx'
    exact absurd hv h

/-- the signature does not verify under the key of the FIRST certificate (altered payload, signature or protected header; signed by
    another key, including the key of another chain member; an algorithm that does not fit the key) -/
theorem blob_reject_bad_signature (env : Prog.Env) (raw : Bytes) (opts : List Fido.Pool) (c : Jws.Compact) (leaf : Bytes) (rest : List Bytes)
    (leafCert : CertView) (hp : Jws.parse raw = .ok c) (hx : c.x5c = leaf :: rest) (hl : env.answer (.x509Parse leaf) = .cert leafCert)
    (h : ¬ Jws.SignedBy env raw c leaf leafCert.key) :
    Prog.run env (Fido.unmarshalBlob raw opts) = none :=
  Option.eq_none_iff_forall_ne_some.2 fun payload hr => by
    obtain ⟨_, leaf', rest', leafCert', hx', hl', hs, _⟩ := blob_payload_is_signed env raw opts payload c hp hr
    rw [hx] at hx'; cases hx'
    rw [hl] at hl'; cases hl'
    exact absurd hs h

/-- non-vacuity: the token `base64url({"alg":"EdDSA","x5c":["AA=="]}) . base64url({}) . ""` with the dependencies answering positively
    (the certificate carries an Ed25519 key; the Ed25519 check over the signing input succeeds) -/
def okEnv : Prog.Env := ⟨fun q => match q with
  | .x509Parse _ => .cert ⟨3, false, [], [], [], [], [], [], .ed []⟩
  | .x509VerifyPool .. => .bool true
  | .sigVerify .eddsa _ _ _ _ => .bool true
  | .blobPayload p => .bytes p
  | _ => .none⟩

theorem blob_accepts_compact :
    Prog.run okEnv (Fido.unmarshalBlob (Bytes.ofString "eyJhbGciOiJFZERTQSIsIng1YyI6WyJBQT09Il19.e30.") []) = some (Bytes.ofString "{}") := by
  decide +kernel

end WebAuthn.C15
