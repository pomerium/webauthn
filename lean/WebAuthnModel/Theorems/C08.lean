import WebAuthnModel.Spec.Ceremony
/-
  C08 — format / type policy options (verify_options.go, attestation_statement.go dispatch).
-/
open WebAuthn
namespace WebAuthn.C08

/-- the regenerated lists are the seven registered formats and the six types; dispatch covers exactly the seven formats and its default is an error -/
theorem tables : Generated.Core.formats = ["android-key", "android-safetynet", "apple", "fido-u2f", "none", "packed", "tpm"]
    ∧ Generated.Core.types = ["Basic", "Self", "AttCA", "AnonCA", "None", "Unknown"]
    ∧ Generated.Core.dispatch.map (·.1) = ["android-key", "android-safetynet", "apple", "fido-u2f", "none", "packed", "tpm"]
    ∧ Generated.Core.dispatchDefaultIsError = true
    ∧ Generated.Core.withVerifyAllowedFormatsReplaces = true ∧ Generated.Core.withVerifyAllowedTypesReplaces = true :=
  ⟨rfl, rfl, rfl, rfl, rfl, rfl⟩

theorem default_all : getVerifyConfig [] = ⟨Spec.sevenFormats, Spec.sixTypes⟩ := rfl

/-- folding the options over an arbitrary starting configuration -/
theorem foldl_spec (opts : List VerifyOption) (cfg : VerifyConfig) :
    (opts.foldl applyOption cfg).formats = (Spec.lastFormats opts).getD cfg.formats ∧
    (opts.foldl applyOption cfg).types = (Spec.lastTypes opts).getD cfg.types := by
  induction opts generalizing cfg with
  | nil => exact ⟨rfl, rfl⟩
  | cons o rest ih =>
    obtain ⟨h1, h2⟩ := ih (applyOption cfg o)
    rw [List.foldl_cons, h1, h2]
    cases o with
    | allowedFormats fs =>
      simp only [Spec.lastFormats, Spec.lastTypes, applyOption]
      cases Spec.lastFormats rest <;> simp
    | allowedTypes ts =>
      simp only [Spec.lastFormats, Spec.lastTypes, applyOption]
      cases Spec.lastTypes rest <;> simp

/-- for ANY option list: the effective sets are those of the last option of each kind, else all seven formats / six types -/
theorem config_spec (opts : List VerifyOption) :
    (getVerifyConfig opts).formats = Spec.allowedFormats opts ∧ (getVerifyConfig opts).types = Spec.allowedTypes opts :=
  foldl_spec opts defaultConfig

/-- options of the other kind leave a set alone -/
theorem foldl_formats (rest : List VerifyOption) (cfg : VerifyConfig) (hrest : ∀ o ∈ rest, ∀ gs, o ≠ .allowedFormats gs) :
    (rest.foldl applyOption cfg).formats = cfg.formats := by
  induction rest generalizing cfg with
  | nil => rfl
  | cons o r ih =>
    obtain ⟨ho, hr⟩ := List.forall_mem_cons.1 hrest
    cases o with
    | allowedFormats gs => exact absurd rfl (ho gs)
    | allowedTypes ts => exact ih _ hr

theorem foldl_types (rest : List VerifyOption) (cfg : VerifyConfig) (hrest : ∀ o ∈ rest, ∀ gs, o ≠ .allowedTypes gs) :
    (rest.foldl applyOption cfg).types = cfg.types := by
  induction rest generalizing cfg with
  | nil => rfl
  | cons o r ih =>
    obtain ⟨ho, hr⟩ := List.forall_mem_cons.1 hrest
    cases o with
    | allowedTypes gs => exact absurd rfl (ho gs)
    | allowedFormats fs => exact ih _ hr

theorem last_option_wins_formats (opts : List VerifyOption) (fs : List Bytes) (rest : List VerifyOption)
    (hrest : ∀ o ∈ rest, ∀ gs, o ≠ .allowedFormats gs) : (getVerifyConfig (opts ++ .allowedFormats fs :: rest)).formats = fs := by
  rw [getVerifyConfig, List.foldl_append, List.foldl_cons, foldl_formats _ _ hrest]
  rfl

theorem last_option_wins_types (opts : List VerifyOption) (ts : List Bytes) (rest : List VerifyOption)
    (hrest : ∀ o ∈ rest, ∀ gs, o ≠ .allowedTypes gs) : (getVerifyConfig (opts ++ .allowedTypes ts :: rest)).types = ts := by
  rw [getVerifyConfig, List.foldl_append, List.foldl_cons, foldl_types _ _ hrest]
  rfl

/-- a format that is not exactly one of the seven registered identifiers is rejected by statement verification, whatever the rest -/
theorem unknown_fmt_rejected (env : Prog.Env) (ao : Att.AttObj) (h : Bytes) (hf : ao.fmt ∉ Spec.sevenFormats) :
    Prog.run env (Att.verify ao h) = none := by
  have hfind : (Generated.Core.dispatch.find? (fun e => Att.s e.1 == ao.fmt)) = none := by
    rw [List.find?_eq_none]
    intro e he heq
    have : Att.s e.1 ∈ Generated.Core.dispatch.map (fun e => Att.s e.1) := List.mem_map_of_mem he
    exact hf (beq_iff_eq.1 heq ▸ this)
  unfold Att.verify
  rw [hfind]
  rfl

/-- the attestation type a verifier can report per format (from the regenerated resultTypes table) -/
theorem result_types : Generated.Core.resultTypes =
    [("VerifyAndroidKeyAttestationStatement", ["Basic"]), ("VerifyAndroidSafetyNetAttestationStatement", ["Basic"]),
     ("VerifyAppleAttestationStatement", ["AnonCA"]), ("VerifyFIDOU2FAttestationStatement", ["Unknown"]),
     ("VerifyNoneAttestationStatement", ["None"]), ("VerifyPackedAttestationStatement", ["Self", "Unknown"]),
     ("VerifyTPMAttestationStatement", ["AttCA"])] := rfl

end WebAuthn.C08
