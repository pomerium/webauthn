import WebAuthnModel.Theorems.C04
import WebAuthnModel.Theorems.C10
/-
  C03 — what each signed attestation format binds.
  (1) the signed / hashed message formats are injective (for all lengths);
  (2) for every verifier, acceptance implies that the binding oracle (certificate signature check, key signature
      check, TPM extraData hash, Apple / SafetyNet nonce) answered positively on exactly the stated message, under
      the stated certificate / key, for the statement's signature;
  (3) under the idealised hypotheses `Spec.Att.SigBinds` / `Spec.Att.HashInj`, two accepted objects sharing the
      statement carry the same covered data.  For `packed` (self attestation), `apple` and `android-safetynet` the
      unrestricted statement is false in the model (`Counter.*_binds_false`); the `_partial` theorems carry the
      extra hypothesis explicitly.
-/
namespace WebAuthn.C03
open WebAuthn WebAuthn.Att

/-! ### message formats are injective -/

/-- authenticatorData ‖ clientDataHash determines both parts when the hash length is fixed -/
theorem concat_hash_inj (a a' h h' : Bytes) (hl : h.length = h'.length) (e : a ++ h = a' ++ h') : a = a' ∧ h = h' :=
  List.append_inj' e hl

theorem coord32_length (b : Bytes) : (coord32 b).length = 32 := by
  unfold coord32
  simp only
  split
  · rw [List.length_take]; omega
  · rw [List.length_append, List.length_replicate]; omega

/-- the fido-u2f verification message determines rpIdHash, client-data hash, credential id and both 32-byte
    coordinates (credential id of ANY length in the middle) -/
theorem u2fMessage_inj (rp rp' h h' id id' x x' y y' : Bytes) (hrp : rp.length = rp'.length) (hh : h.length = h'.length)
    (e : u2fMessage rp h id x y = u2fMessage rp' h' id' x' y') :
    rp = rp' ∧ h = h' ∧ id = id' ∧ coord32 x = coord32 x' ∧ coord32 y = coord32 y' := by
  unfold u2fMessage at e
  have hx := coord32_length x; have hx' := coord32_length x'
  have hy := coord32_length y; have hy' := coord32_length y'
  obtain ⟨e1, e2⟩ := List.append_inj' e (by simp only [List.length_append, List.length_cons, List.length_nil]; omega)
  obtain ⟨e3, e4⟩ := List.append_inj' e2 (by omega)
  obtain ⟨e5, e6⟩ := List.append_inj e1 (by simp only [List.length_append, List.length_cons, List.length_nil]; omega)
  obtain ⟨e7, e8⟩ := List.append_inj' e5 hh
  exact ⟨List.append_cancel_left e7, e8, e6, List.append_cancel_left e3, e4⟩

/-! ### running the oracle helpers -/

theorem run_askBool (env : Prog.Env) (q : Ask) :
    Prog.run env (askBool q) = true ↔ env.answer q = .bool true := Att.run_askBool env q

theorem run_askBytes (env : Prog.Env) (q : Ask) (b : Bytes) :
    Prog.run env (askBytes q) = some b ↔ env.answer q = .bytes b := Att.run_askBytes env q b

/-! ### what acceptance binds, format by format: read off the acceptance conditions (`C04.*_requirements`) -/

theorem certSig_checked {env : Prog.Env} {der : Bytes} {c : CertView} {alg : Int} {msg sig : Bytes}
    (h : Spec.Att.CertSigOK env der c alg msg sig) : X509Sig.Checked env der c.key (Cose.algX509 alg) msg sig := by
  rw [C12.algX509_spec]; exact h

theorem packed_x5c_binding (env : Prog.Env) (o : AttObj) (h : Bytes) (res : Result)
    (hx : Cbor.stmtGet o.stmt "x5c" ≠ none) (hr : Prog.run env (verifyPacked o h) = some res) :
    ∃ der c rest, res.x5c = der :: rest ∧ env.answer (.x509Parse der) = .cert c ∧
      X509Sig.Checked env der c.key (Cose.algX509 (getAlgorithm o.stmt)) (o.authData ++ h) (getSignature o.stmt) := by
  obtain ⟨der, c, rest, hx5, rfl, hsig⟩ := (C04.packed_x5c_requirements env o h res hx hr).result
  exact ⟨der, c, _, rfl, C04.x5c_head_parsed hx5, certSig_checked hsig⟩

theorem packed_self_binding (env : Prog.Env) (o : AttObj) (h : Bytes) (res : Result)
    (hx : Cbor.stmtGet o.stmt "x5c" = none) (hr : Prog.run env (verifyPacked o h) = some res) :
    ∃ d acd k sc hh, attestedAuthData o = some (d, acd) ∧ credentialKey acd = some k ∧ Cose.verifyParams k = some (sc, hh) ∧
      env.answer (.sigVerify sc hh k.material (o.authData ++ h) (getSignature o.stmt)) = .bool true := by
  obtain ⟨d, acd, k, hA, hK, -, ⟨sc, hh, h1, h2⟩, -⟩ := (C04.packed_self_requirements env o h res hx hr).body
  exact ⟨d, acd, k, sc, hh, (C04.attested_iff ..).2 hA, (C04.credKey_iff ..).2 hK, (C12.verifyParams_spec k).trans h1, h2⟩

theorem u2f_binding (env : Prog.Env) (o : AttObj) (h : Bytes) (res : Result)
    (hr : Prog.run env (verifyU2F o h) = some res) :
    ∃ der c d acd alg crv x y, res.x5c = [der] ∧ env.answer (.x509Parse der) = .cert c ∧
      attestedAuthData o = some (d, acd) ∧ credentialKey acd = some (.ec2 alg crv x y) ∧
      X509Sig.Checked env der c.key (Cose.algX509 alg) (u2fMessage d.rpIdHash h acd.credentialId x y) (getSignature o.stmt) := by
  obtain ⟨der, c, d, acd, alg, crv, x, y, _, _, hx5, -, hA, hK, -, -, -, hsig, rfl⟩ :=
    (C04.u2f_requirements env o h res hr).body
  exact ⟨der, c, d, acd, alg, crv, x, y, rfl, C04.x5c_head_parsed hx5, (C04.attested_iff ..).2 hA,
    (C04.credKey_iff ..).2 hK, certSig_checked hsig⟩

theorem androidKey_binding (env : Prog.Env) (o : AttObj) (h : Bytes) (res : Result)
    (hr : Prog.run env (verifyAndroidKey o h) = some res) :
    ∃ der c rest, res.x5c = der :: rest ∧ env.answer (.x509Parse der) = .cert c ∧
      X509Sig.Checked env der c.key (Cose.algX509 (getAlgorithm o.stmt)) (o.authData ++ h) (getSignature o.stmt) := by
  obtain ⟨der, c, rest, hx5, rfl, hsig⟩ := (C04.androidKey_requirements env o h res hr).result
  exact ⟨der, c, _, rfl, C04.x5c_head_parsed hx5, certSig_checked hsig⟩

theorem tpm_binding (env : Prog.Env) (o : AttObj) (h : Bytes) (res : Result)
    (hr : Prog.run env (verifyTPM o h) = some res) :
    ∃ der c rest ciRaw ci ciEnc, res.x5c = der :: rest ∧ env.answer (.x509Parse der) = .cert c ∧
      stmtBytes o.stmt "certInfo" = some ciRaw ∧
      Tpm2.certInfo (Prog.run env askHashes) ciRaw = some ci ∧
      env.answer (.hash (Cose.algHash (getAlgorithm o.stmt)) (o.authData ++ h)) = .bytes ci.extraData ∧
      ci.encoded = some ciEnc ∧
      X509Sig.Checked env der c.key (Cose.algX509 (getAlgorithm o.stmt)) ciEnc (getSignature o.stmt) := by
  obtain ⟨der, c, rest, ciRaw, ci, ciEnc, hx5, rfl, h3, h4, h14, h21, hsig, -⟩ := (C04.tpm_requirements env o h res hr).result
  exact ⟨der, c, _, ciRaw, ci, ciEnc, rfl, C04.x5c_head_parsed hx5, h3, h4, by rw [C12.algHash_spec]; exact h14, h21,
    certSig_checked hsig⟩

theorem apple_binding (env : Prog.Env) (o : AttObj) (h : Bytes) (res : Result)
    (hr : Prog.run env (verifyApple o h) = some res) :
    ∃ der rest c e, res.x5c = der :: rest ∧ env.answer (.x509Parse der) = .cert c ∧
      findExt c Generated.Core.oidAppleNonce = some e ∧
      KeyDesc.appleNonce e.value = some (Spec.sha256 env (o.authData ++ h)) := by
  obtain ⟨der, c, rest, e, hx5, rfl, hf, hn⟩ := (C04.apple_requirements env o h res hr).result
  exact ⟨der, _, c, e, rfl, C04.x5c_head_parsed hx5, hf, hn⟩

/-- two descriptions of the same response carry the same nonce -/
theorem safetyNetResponse_nonce_unique (env : Prog.Env) (raw n n' : Bytes)
    (h : Spec.Att.SafetyNetResponse env raw n) (h' : Spec.Att.SafetyNetResponse env raw n') : n = n' := by
  rcases h with ⟨c, der, cert, rest, hp, -, -, -, hcl⟩ | ⟨v, hu, ha, -, -, -, hn⟩
  · rcases h' with ⟨c', der', cert', rest', hp', -, -, -, hcl'⟩ | ⟨v', hu', -⟩
    · rw [hp] at hp'
      cases hp'
      exact Option.some.inj (hcl.symm.trans hcl')
    · rw [hp] at hu'; cases hu'
  · rcases h' with ⟨c', der', cert', rest', hp', -⟩ | ⟨v', hu', ha', -, -, -, hn'⟩
    · rw [hu] at hp'; cases hp'
    · rw [ha] at ha'
      cases ha'
      exact hn.symm.trans hn'

theorem safetyNet_core (env : Prog.Env) (o : AttObj) (h : Bytes) (res : Result)
    (hr : Prog.run env (verifySafetyNet o h) = some res) :
    ∃ raw nonce, stmtBytes o.stmt "response" = some raw ∧ Spec.Att.SafetyNetResponse env raw nonce ∧
      nonce = Spec.sha256 env (o.authData ++ h) ∧ res = ⟨"Basic", []⟩ :=
  ((JwsLemmas.verifySafetyNet_iff env o h res).1 hr).body

theorem safetyNet_binding (env : Prog.Env) (o : AttObj) (h : Bytes) (res : Result)
    (hr : Prog.run env (verifySafetyNet o h) = some res) :
    ∃ raw nonce, stmtBytes o.stmt "response" = some raw ∧ Spec.Att.SafetyNetResponse env raw nonce ∧
      nonce = Spec.sha256 env (o.authData ++ h) := by
  obtain ⟨raw, nonce, h1, h2, h3, -⟩ := safetyNet_core env o h res hr
  exact ⟨raw, nonce, h1, h2, h3⟩

/-! ### binding under the idealised hypotheses

  Two accepted objects with the same statement map read the same first certificate (`C04.x5c_unique`), hence pass the same
  signature check, and `SigBinds` makes the signed messages equal; for the nonce formats the two expected nonces are equal and
  `HashInj` makes the hashed messages equal wherever SHA-256 answered. -/

theorem attested_rpIdHash_length {o : AttObj} {d : AuthData} {acd : AttestedCredentialData}
    (h : Spec.Att.Attested o d acd) : d.rpIdHash.length = 32 :=
  let ⟨_, hu, _⟩ := h
  (C10.unmarshal_wellFormed _ _ _ hu).1

open Spec.Att in
theorem x5c_checked_binds {env : Prog.Env} (hb : SigBinds env) {stmt : List (Bytes × Cbor.Value)} {der der' : Bytes}
    {c c' : CertView} {rest rest' : List (Bytes × CertView)} {algo : Nat} {m m' sg : Bytes}
    (hx : X5c env stmt ((der, c) :: rest)) (hx' : X5c env stmt ((der', c') :: rest'))
    (hs : X509Sig.Checked env der c.key algo m sg) (hs' : X509Sig.Checked env der' c'.key algo m' sg) : m = m' := by
  cases C04.x5c_unique hx hx'
  exact X509SigLemmas.checked_binds hb hs hs'

open Spec.Att in
theorem packed_x5c_binds (env : Prog.Env) (hb : SigBinds env) (o o' : AttObj) (h h' : Bytes) (res res' : Result)
    (hs : o'.stmt = o.stmt) (hl : h.length = h'.length) (hx : Cbor.stmtGet o.stmt "x5c" ≠ none)
    (hr : Prog.run env (verifyPacked o h) = some res) (hr' : Prog.run env (verifyPacked o' h') = some res') :
    o.authData = o'.authData ∧ h = h' := by
  obtain ⟨der, c, rest, hx5, -, hsig⟩ := (C04.packed_x5c_requirements env o h res hx hr).result
  obtain ⟨der', c', rest', hx5', -, hsig'⟩ := (C04.packed_x5c_requirements env o' h' res' (hs ▸ hx) hr').result
  rw [hs] at hx5' hsig'
  exact concat_hash_inj _ _ _ _ hl (x5c_checked_binds hb hx5 hx5' (certSig_checked hsig) (certSig_checked hsig'))

theorem verifyParams_congr (k k' : Cose.Key) (ha : k.alg = k'.alg) (hm : k.material = k'.material) :
    Cose.verifyParams k = Cose.verifyParams k' := by
  cases k <;> cases k' <;> simp only [Cose.Key.material, reduceCtorEq] at hm
  · simp only [Cose.Key.alg] at ha; subst ha; rfl
  · rfl
  · simp only [Cose.Key.alg] at ha; subst ha; rfl

open Spec.Att in
/-- self attestation binds `authData ‖ hash` only relative to the credential key (which is itself taken from `authData`) -/
theorem packed_self_binds_partial (env : Prog.Env) (hb : SigBinds env) (o o' : AttObj) (h h' : Bytes) (res res' : Result)
    (hs : o'.stmt = o.stmt) (hl : h.length = h'.length) (hx : Cbor.stmtGet o.stmt "x5c" = none)
    (hk : ∀ d acd k d' acd' k', attestedAuthData o = some (d, acd) → credentialKey acd = some k →
      attestedAuthData o' = some (d', acd') → credentialKey acd' = some k' → k.material = k'.material)
    (hr : Prog.run env (verifyPacked o h) = some res) (hr' : Prog.run env (verifyPacked o' h') = some res') :
    o.authData = o'.authData ∧ h = h' := by
  obtain ⟨d, acd, k, hA, hK, ha, ⟨sc, hh, h4, h5⟩, -⟩ := (C04.packed_self_requirements env o h res hx hr).body
  obtain ⟨d', acd', k', hA', hK', ha', ⟨sc', hh', h4', h5'⟩, -⟩ :=
    (C04.packed_self_requirements env o' h' res' (hs ▸ hx) hr').body
  rw [hs] at ha' h5'
  have hm := hk _ _ _ _ _ _ ((C04.attested_iff ..).2 hA) ((C04.credKey_iff ..).2 hK) ((C04.attested_iff ..).2 hA')
    ((C04.credKey_iff ..).2 hK')
  have hp := verifyParams_congr k k' (ha.symm.trans ha') hm
  rw [C12.verifyParams_spec, C12.verifyParams_spec, h4, h4'] at hp
  cases hp
  rw [← hm] at h5'
  exact concat_hash_inj _ _ _ _ hl (hb.2 _ _ _ _ _ _ h5 h5')

open Spec.Att in
theorem packed_binds_partial (env : Prog.Env) (hb : SigBinds env) (o o' : AttObj) (h h' : Bytes) (res res' : Result)
    (hs : o'.stmt = o.stmt) (hl : h.length = h'.length)
    (hk : Cbor.stmtGet o.stmt "x5c" = none → ∀ d acd k d' acd' k', attestedAuthData o = some (d, acd) → credentialKey acd = some k →
      attestedAuthData o' = some (d', acd') → credentialKey acd' = some k' → k.material = k'.material)
    (hr : Prog.run env (verifyPacked o h) = some res) (hr' : Prog.run env (verifyPacked o' h') = some res') :
    o.authData = o'.authData ∧ h = h' := by
  by_cases hx : Cbor.stmtGet o.stmt "x5c" = none
  · exact packed_self_binds_partial env hb o o' h h' res res' hs hl hx (hk hx) hr hr'
  · exact packed_x5c_binds env hb o o' h h' res res' hs hl hx hr hr'

open Spec.Att in
theorem androidKey_binds (env : Prog.Env) (hb : SigBinds env) (o o' : AttObj) (h h' : Bytes) (res res' : Result)
    (hs : o'.stmt = o.stmt) (hl : h.length = h'.length)
    (hr : Prog.run env (verifyAndroidKey o h) = some res) (hr' : Prog.run env (verifyAndroidKey o' h') = some res') :
    o.authData = o'.authData ∧ h = h' := by
  obtain ⟨der, c, rest, hx5, -, hsig⟩ := (C04.androidKey_requirements env o h res hr).result
  obtain ⟨der', c', rest', hx5', -, hsig'⟩ := (C04.androidKey_requirements env o' h' res' hr').result
  rw [hs] at hx5' hsig'
  exact concat_hash_inj _ _ _ _ hl (x5c_checked_binds hb hx5 hx5' (certSig_checked hsig) (certSig_checked hsig'))

open Spec.Att in
theorem tpm_binds (env : Prog.Env) (hi : HashInj env) (o o' : AttObj) (h h' : Bytes) (res res' : Result)
    (hs : o'.stmt = o.stmt) (hl : h.length = h'.length)
    (hr : Prog.run env (verifyTPM o h) = some res) (hr' : Prog.run env (verifyTPM o' h') = some res') :
    o.authData = o'.authData ∧ h = h' := by
  obtain ⟨_, _, _, ciRaw, ci, _, -, -, h1, h2, h3, -⟩ := (C04.tpm_requirements env o h res hr).result
  obtain ⟨_, _, _, ciRaw', ci', _, -, -, h1', h2', h3', -⟩ := (C04.tpm_requirements env o' h' res' hr').result
  rw [hs] at h1' h3'
  cases h1.symm.trans h1'
  cases h2.symm.trans h2'
  exact concat_hash_inj _ _ _ _ hl (hi.2 _ _ _ _ h3 h3')

open Spec.Att in
theorem sha_inj (env : Prog.Env) (hi : HashInj env) (m m' : Bytes)
    (hd : ∃ v, env.answer (.sha256 m) = .bytes v) (hd' : ∃ v, env.answer (.sha256 m') = .bytes v)
    (e : Spec.sha256 env m = Spec.sha256 env m') : m = m' := by
  obtain ⟨v, hv⟩ := hd
  obtain ⟨v', hv'⟩ := hd'
  simp only [Spec.sha256, hv, hv'] at e
  subst e
  exact hi.1 _ _ _ hv hv'

theorem sha_answered_of_ne_nil (env : Prog.Env) (m : Bytes) (h : Spec.sha256 env m ≠ []) :
    ∃ v, env.answer (.sha256 m) = .bytes v := by
  unfold Spec.sha256 at h
  split at h
  · exact ⟨_, by assumption⟩
  · exact absurd rfl h

open Spec.Att in
theorem sha_binds {env : Prog.Env} (hi : HashInj env) {a a' h h' : Bytes} (hl : h.length = h'.length)
    (hd : ∃ v, env.answer (.sha256 (a ++ h)) = .bytes v) (hd' : ∃ v, env.answer (.sha256 (a' ++ h')) = .bytes v)
    (e : Spec.sha256 env (a ++ h) = Spec.sha256 env (a' ++ h')) : a = a' ∧ h = h' :=
  concat_hash_inj _ _ _ _ hl (sha_inj env hi _ _ hd hd' e)

/-- two accepted apple statements with the same statement map expect the same nonce -/
theorem apple_same_nonce (env : Prog.Env) (o o' : AttObj) (h h' : Bytes) (res res' : Result) (hs : o'.stmt = o.stmt)
    (hr : Prog.run env (verifyApple o h) = some res) (hr' : Prog.run env (verifyApple o' h') = some res') :
    Spec.sha256 env (o.authData ++ h) = Spec.sha256 env (o'.authData ++ h') := by
  obtain ⟨der, c, rest, e, hx, -, hf, hn⟩ := (C04.apple_requirements env o h res hr).result
  obtain ⟨der', c', rest', e', hx', -, hf', hn'⟩ := (C04.apple_requirements env o' h' res' hr').result
  rw [hs] at hx'
  cases C04.x5c_unique hx hx'
  cases hf.symm.trans hf'
  exact Option.some.inj (hn.symm.trans hn')

/-- the same for android-safetynet -/
theorem safetyNet_same_nonce (env : Prog.Env) (o o' : AttObj) (h h' : Bytes) (res res' : Result) (hs : o'.stmt = o.stmt)
    (hr : Prog.run env (verifySafetyNet o h) = some res) (hr' : Prog.run env (verifySafetyNet o' h') = some res') :
    Spec.sha256 env (o.authData ++ h) = Spec.sha256 env (o'.authData ++ h') := by
  obtain ⟨raw, nonce, h1, h2, h3, -⟩ := safetyNet_core env o h res hr
  obtain ⟨raw', nonce', h1', h2', h3', -⟩ := safetyNet_core env o' h' res' hr'
  rw [hs] at h1'
  cases h1.symm.trans h1'
  rw [← h3, ← h3']
  exact safetyNetResponse_nonce_unique env raw nonce nonce' h2 h2'

open Spec.Att in
theorem apple_binds_partial (env : Prog.Env) (hi : HashInj env) (o o' : AttObj) (h h' : Bytes) (res res' : Result)
    (hs : o'.stmt = o.stmt) (hl : h.length = h'.length)
    (hd : ∃ v, env.answer (.sha256 (o.authData ++ h)) = .bytes v)
    (hd' : ∃ v, env.answer (.sha256 (o'.authData ++ h')) = .bytes v)
    (hr : Prog.run env (verifyApple o h) = some res) (hr' : Prog.run env (verifyApple o' h') = some res') :
    o.authData = o'.authData ∧ h = h' :=
  sha_binds hi hl hd hd' (apple_same_nonce env o o' h h' res res' hs hr hr')

open Spec.Att in
/-- variant: it is enough that the nonce in the certificate is non-empty -/
theorem apple_binds_of_nonce_ne_nil (env : Prog.Env) (hi : HashInj env) (o o' : AttObj) (h h' : Bytes) (res res' : Result)
    (hs : o'.stmt = o.stmt) (hl : h.length = h'.length)
    (hne : Spec.sha256 env (o.authData ++ h) ≠ [])
    (hr : Prog.run env (verifyApple o h) = some res) (hr' : Prog.run env (verifyApple o' h') = some res') :
    o.authData = o'.authData ∧ h = h' :=
  have e := apple_same_nonce env o o' h h' res res' hs hr hr'
  sha_binds hi hl (sha_answered_of_ne_nil _ _ hne) (sha_answered_of_ne_nil _ _ (e ▸ hne)) e

open Spec.Att in
theorem safetyNet_binds_partial (env : Prog.Env) (hi : HashInj env) (o o' : AttObj) (h h' : Bytes) (res res' : Result)
    (hs : o'.stmt = o.stmt) (hl : h.length = h'.length)
    (hd : ∃ v, env.answer (.sha256 (o.authData ++ h)) = .bytes v)
    (hd' : ∃ v, env.answer (.sha256 (o'.authData ++ h')) = .bytes v)
    (hr : Prog.run env (verifySafetyNet o h) = some res) (hr' : Prog.run env (verifySafetyNet o' h') = some res') :
    o.authData = o'.authData ∧ h = h' :=
  sha_binds hi hl hd hd' (safetyNet_same_nonce env o o' h h' res res' hs hr hr')

open Spec.Att in
theorem safetyNet_binds_of_nonce_ne_nil (env : Prog.Env) (hi : HashInj env) (o o' : AttObj) (h h' : Bytes) (res res' : Result)
    (hs : o'.stmt = o.stmt) (hl : h.length = h'.length)
    (hne : Spec.sha256 env (o.authData ++ h) ≠ [])
    (hr : Prog.run env (verifySafetyNet o h) = some res) (hr' : Prog.run env (verifySafetyNet o' h') = some res') :
    o.authData = o'.authData ∧ h = h' :=
  have e := safetyNet_same_nonce env o o' h h' res res' hs hr hr'
  sha_binds hi hl (sha_answered_of_ne_nil _ _ hne) (sha_answered_of_ne_nil _ _ (e ▸ hne)) e

theorem stripZeros_idem (b : Bytes) : Bytes.stripZeros (Bytes.stripZeros b) = Bytes.stripZeros b := by
  induction b with
  | nil => rfl
  | cons a l ih =>
    by_cases ha : a = 0
    · simp only [Bytes.stripZeros, ha, if_true]; exact ih
    · simp only [Bytes.stripZeros, ha, if_false]

theorem stripZeros_replicate_append (n : Nat) (m : Bytes) :
    Bytes.stripZeros (List.replicate n 0 ++ m) = Bytes.stripZeros m := by
  induction n with
  | zero => simp
  | succ k ih => simp only [List.replicate_succ, List.cons_append, Bytes.stripZeros, if_true]; exact ih

/-- a coordinate that fits 32 bytes: its 32-byte form is the left-padded magnitude, and stripping the padding gives the magnitude back -/
theorem stripZeros_coord32_of_fit (b : Bytes) (hb : (Bytes.stripZeros b).length ≤ 32) :
    Bytes.stripZeros (coord32 b) = Bytes.stripZeros b := by
  unfold coord32
  simp only
  split
  · rw [List.take_of_length_le hb]; exact stripZeros_idem b
  · rw [stripZeros_replicate_append]; exact stripZeros_idem b

/-- a coordinate that fits 32 bytes is recovered from its 32-byte form: equal forms, equal numbers -/
theorem coord32_inj_of_fit (x x' : Bytes) (hx : (Bytes.stripZeros x).length ≤ 32) (hx' : (Bytes.stripZeros x').length ≤ 32)
    (h : coord32 x = coord32 x') : Bytes.stripZeros x = Bytes.stripZeros x' := by
  rw [← stripZeros_coord32_of_fit x hx, ← stripZeros_coord32_of_fit x' hx', h]

theorem coord32_congr {x x' : Bytes} (e : Bytes.stripZeros x = Bytes.stripZeros x') : coord32 x = coord32 x' := by
  unfold coord32; rw [e]

open Spec.Att in
/-- fido-u2f, as the property states it: under `SigBinds`, two accepted statements with the same statement map and the same signature
    algorithm have the same RP ID hash, client-data hash, credential id AND THE SAME PUBLIC-KEY POINT (the coordinates as numbers) —
    the point the relying party stores is the one the attestation key vouched for.  (Before the repair of D15 only the leading 32
    bytes of each coordinate were bound.) -/
theorem u2f_binds_point (env : Prog.Env) (hb : SigBinds env) (o o' : AttObj) (h h' : Bytes) (res res' : Result)
    (hs : o'.stmt = o.stmt) (hl : h.length = h'.length)
    (hr : Prog.run env (verifyU2F o h) = some res) (hr' : Prog.run env (verifyU2F o' h') = some res') :
    ∃ d acd alg crv x y d' acd' alg' crv' x' y',
      attestedAuthData o = some (d, acd) ∧ credentialKey acd = some (.ec2 alg crv x y) ∧
      attestedAuthData o' = some (d', acd') ∧ credentialKey acd' = some (.ec2 alg' crv' x' y') ∧
      crv = 1 ∧ crv' = 1 ∧
      (Cose.algX509 alg = Cose.algX509 alg' →
        d.rpIdHash = d'.rpIdHash ∧ h = h' ∧ acd.credentialId = acd'.credentialId ∧
        Bytes.stripZeros x = Bytes.stripZeros x' ∧ Bytes.stripZeros y = Bytes.stripZeros y') := by
  obtain ⟨der, c, d, acd, alg, crv, x, y, _, _, hx5, -, hA, hK, hcrv, hfx, hfy, hsig, -⟩ :=
    (C04.u2f_requirements env o h res hr).body
  obtain ⟨der', c', d', acd', alg', crv', x', y', _, _, hx5', -, hA', hK', hcrv', hfx', hfy', hsig', -⟩ :=
    (C04.u2f_requirements env o' h' res' hr').body
  rw [hs] at hx5' hsig'
  refine ⟨d, acd, alg, crv, x, y, d', acd', alg', crv', x', y', (C04.attested_iff ..).2 hA, (C04.credKey_iff ..).2 hK,
    (C04.attested_iff ..).2 hA', (C04.credKey_iff ..).2 hK', hcrv, hcrv', fun ha => ?_⟩
  have hsig'' := certSig_checked hsig'
  rw [← ha] at hsig''
  obtain ⟨e1, e2, e3, e4, e5⟩ := u2fMessage_inj _ _ _ _ _ _ _ _ _ _
    ((attested_rpIdHash_length hA).trans (attested_rpIdHash_length hA').symm) hl
    (x5c_checked_binds hb hx5 hx5' (certSig_checked hsig) hsig'')
  exact ⟨e1, e2, e3, coord32_inj_of_fit x x' hfx hfx' e4, coord32_inj_of_fit y y' hfy hfy' e5⟩

open Spec.Att in
theorem u2f_binds (env : Prog.Env) (hb : SigBinds env) (o o' : AttObj) (h h' : Bytes) (res res' : Result)
    (hs : o'.stmt = o.stmt) (hl : h.length = h'.length)
    (hr : Prog.run env (verifyU2F o h) = some res) (hr' : Prog.run env (verifyU2F o' h') = some res') :
    ∃ d acd alg crv x y d' acd' alg' crv' x' y',
      attestedAuthData o = some (d, acd) ∧ credentialKey acd = some (.ec2 alg crv x y) ∧
      attestedAuthData o' = some (d', acd') ∧ credentialKey acd' = some (.ec2 alg' crv' x' y') ∧
      (Cose.algX509 alg = Cose.algX509 alg' →
        d.rpIdHash = d'.rpIdHash ∧ h = h' ∧ acd.credentialId = acd'.credentialId ∧ coord32 x = coord32 x' ∧ coord32 y = coord32 y') := by
  obtain ⟨d, acd, alg, crv, x, y, d', acd', alg', crv', x', y', h1, h2, h1', h2', -, -, hp⟩ :=
    u2f_binds_point env hb o o' h h' res res' hs hl hr hr'
  refine ⟨d, acd, alg, crv, x, y, d', acd', alg', crv', x', y', h1, h2, h1', h2', fun ha => ?_⟩
  obtain ⟨e1, e2, e3, e4, e5⟩ := hp ha
  exact ⟨e1, e2, e3, coord32_congr e4, coord32_congr e5⟩

/-! ### non-vacuity of the idealised hypotheses -/

def idealEnv : Prog.Env := ⟨fun q => match q with
  | .sha256 d => .bytes d
  | .hash _ d => .bytes d
  | .x509CheckSig _ _ m sg => .bool (m == sg)
  | .sigVerify _ _ _ m sg => .bool (m == sg)
  | _ => .none⟩

open Spec.Att in
theorem idealEnv_ok : SigBinds idealEnv ∧ HashInj idealEnv :=
  ⟨⟨fun _ _ _ _ _ h1 h2 => (beq_iff_eq.1 (Resp.bool.inj h1)).trans (beq_iff_eq.1 (Resp.bool.inj h2)).symm,
    fun _ _ _ _ _ _ h1 h2 => (beq_iff_eq.1 (Resp.bool.inj h1)).trans (beq_iff_eq.1 (Resp.bool.inj h2)).symm⟩,
   ⟨fun _ _ _ h1 h2 => (Resp.bytes.inj h1).trans (Resp.bytes.inj h2).symm,
    fun _ _ _ _ h1 h2 => (Resp.bytes.inj h1).trans (Resp.bytes.inj h2).symm⟩⟩

/-- NON-VACUITY: an environment satisfying both idealised hypotheses exists -/
example : ∃ env : Prog.Env, Spec.Att.SigBinds env ∧ Spec.Att.HashInj env := ⟨idealEnv, idealEnv_ok⟩

/-! ### counterexamples to the unrestricted `packed` / `apple` / `android-safetynet` binding statements -/
namespace Counter
open Spec.Att

def zeros (n : Nat) : Bytes := List.replicate n 0
/-- an OKP (Ed25519) COSE key with public key `k` -/
def keyBytes (k : Bytes) : Bytes := [0xa4, 0x01, 0x01, 0x03, 0x27, 0x20, 0x06, 0x21, 0x58, 0x20] ++ k
/-- authenticator data: zero RP ID hash, flags UP|AT, counter `cnt`, zero AAGUID, credential id `[7]`, key `k` -/
def authData (cnt : UInt8) (k : Bytes) : Bytes :=
  zeros 32 ++ [0x41] ++ [0, 0, 0, cnt] ++ zeros 16 ++ [0, 1] ++ [7] ++ keyBytes k

/-- extension value `SEQUENCE { [1] EXPLICIT { OCTET STRING "" } }`: the Apple nonce extension carrying the empty nonce -/
def appleNonceExt : Bytes := [0x30, 0x04, 0xA1, 0x02, 0x04, 0x00]

theorem appleNonceExt_nonce : KeyDesc.appleNonce appleNonceExt = some [] := by
  with_unfolding_all rfl

/-- SHA-256 is unavailable (answers `.none`): `Spec.sha256`/`Att.sha256` then yield `[]` for every input -/
def noShaEnv : Prog.Env := ⟨fun q => match q with
  | .safetyNet _ => .safetyNet ⟨true, true, true, []⟩
  | .x509Parse _ => .cert ⟨3, false, [], [], [], [], [⟨Generated.Core.oidAppleNonce, false, appleNonceExt⟩], [], .ed (zeros 32)⟩
  | _ => .none⟩

theorem noShaEnv_ok : SigBinds noShaEnv ∧ HashInj noShaEnv := by
  refine ⟨⟨?_, ?_⟩, ⟨?_, ?_⟩⟩
  · intro der alg m m' sg h1; cases h1
  · intro sc hh k m m' sg h1; cases h1
  · intro d d' v h1; cases h1
  · intro id d d' v h1; cases h1

/-- a response in the JSON serialisation (first byte '{'): the form answered by the opaque dependency view -/
def snStmt : List (Bytes × Cbor.Value) := [(Att.s "response", .bytes [123])]

theorem safetyNet_accepts (ad : Bytes) :
    Prog.run noShaEnv (verifySafetyNet ⟨[], ad, snStmt⟩ []) = some ⟨"Basic", []⟩ := by
  with_unfolding_all rfl

/-- a compact token `base64url({"alg":"EdDSA","x5c":["AA=="]}) . base64url({}) . ""`: one x5c entry, empty claims (nonce absent = empty) -/
def snCompactStmt : List (Bytes × Cbor.Value) := [(Att.s "response", .bytes (Bytes.ofString "eyJhbGciOiJFZERTQSIsIng1YyI6WyJBQT09Il19.e30."))]

/-- the dependencies answer positively: the x5c entry is a certificate with an Ed25519 key, it validates for the SafetyNet host name,
    the Ed25519 check over the signing input succeeds; SHA-256 is unavailable (so the expected nonce is empty) -/
def snCompactEnv : Prog.Env := ⟨fun q => match q with
  | .x509Parse _ => .cert ⟨3, false, [], [], [], [], [], [], .ed (zeros 32)⟩
  | .x509Verify .. => .bool true
  | .sigVerify .eddsa _ _ _ _ => .bool true
  | _ => .none⟩

theorem safetyNet_compact_parse :
    (match Jws.parse (Bytes.ofString "eyJhbGciOiJFZERTQSIsIng1YyI6WyJBQT09Il19.e30.") with
     | .ok c => c.x5c == [[0]] && c.payload == Bytes.ofString "{}" && c.signature == [] && c.verifiable && c.alg == Bytes.ofString "EdDSA" &&
                c.signingInput == Bytes.ofString "eyJhbGciOiJFZERTQSIsIng1YyI6WyJBQT09Il19.e30" && Jws.claims c.payload == some [] &&
                Jws.verifyPlan c.alg (.ed (zeros 32)) c.signature == .primitive .eddsa 0 []
     | _ => false) = true := by
  decide +kernel

/-- non-vacuity of the compact branch: the Lean JWS model takes this token through header decoding, x5c decoding, the choice of the
    signature primitive (Ed25519 over the signing input), claims decoding and the nonce comparison -/
theorem safetyNet_accepts_compact (ad : Bytes) :
    Prog.run snCompactEnv (verifySafetyNet ⟨[], ad, snCompactStmt⟩ []) = some ⟨"Basic", []⟩ := by
  have hp := safetyNet_compact_parse
  rw [JwsLemmas.verifySafetyNet_iff]
  split at hp
  next c hc =>
    simp only [Bool.and_eq_true, beq_iff_eq] at hp
    obtain ⟨⟨⟨⟨⟨⟨⟨hx, -⟩, -⟩, hv⟩, -⟩, -⟩, hcl⟩, hpl⟩ := hp
    refine ⟨_, [], by with_unfolding_all rfl, .compact c [0] ⟨3, false, [], [], [], [], [], [], .ed (zeros 32)⟩ [] hc
      (hx ▸ ⟨rfl, rfl, trivial⟩) rfl ⟨hv, ?_⟩ hcl, rfl, rfl⟩
    show match Jws.verifyPlan c.alg (.ed (zeros 32)) c.signature with
      | .reject => False
      | .primitive sc hh sig => snCompactEnv.answer (.sigVerify sc hh (.ed (zeros 32)) c.signingInput sig) = .bool true
      | .«opaque» => snCompactEnv.answer (.jwsVerify _ [0]) = .bool true
    rw [hpl]
    rfl
  · cases hp

/-- `safetyNet_binds` without an extra hypothesis is FALSE: with SHA-256 unavailable (so `HashInj` holds vacuously for it)
    the empty nonce matches every authenticator data -/
theorem safetyNet_binds_false :
    ¬ ∀ (env : Prog.Env) (_ : HashInj env) (o o' : AttObj) (h h' : Bytes) (res res' : Result)
        (_ : o'.stmt = o.stmt) (_ : o'.fmt = o.fmt) (_ : h.length = h'.length)
        (_ : Prog.run env (verifySafetyNet o h) = some res) (_ : Prog.run env (verifySafetyNet o' h') = some res'),
        o.authData = o'.authData ∧ h = h' := by
  intro H
  have := (H noShaEnv noShaEnv_ok.2 ⟨[], [1], snStmt⟩ ⟨[], [2], snStmt⟩ [] [] _ _ rfl rfl rfl
    (safetyNet_accepts [1]) (safetyNet_accepts [2])).1
  cases this

def appleStmt : List (Bytes × Cbor.Value) := [(Att.s "x5c", .array [.bytes [1]])]

theorem apple_accepts0 :
    Prog.run noShaEnv (verifyApple ⟨[], authData 0 (zeros 32), appleStmt⟩ []) = some ⟨"AnonCA", [[1]]⟩ := by
  decide +kernel
theorem apple_accepts1 :
    Prog.run noShaEnv (verifyApple ⟨[], authData 1 (zeros 32), appleStmt⟩ []) = some ⟨"AnonCA", [[1]]⟩ := by
  decide +kernel

/-- `apple_binds` without an extra hypothesis is FALSE (same reason; the two authenticator data differ in the counter) -/
theorem apple_binds_false :
    ¬ ∀ (env : Prog.Env) (_ : HashInj env) (o o' : AttObj) (h h' : Bytes) (res res' : Result)
        (_ : o'.stmt = o.stmt) (_ : o'.fmt = o.fmt) (_ : h.length = h'.length)
        (_ : Prog.run env (verifyApple o h) = some res) (_ : Prog.run env (verifyApple o' h') = some res'),
        o.authData = o'.authData ∧ h = h' := by
  intro H
  have := (H noShaEnv noShaEnv_ok.2 ⟨[], authData 0 (zeros 32), appleStmt⟩ ⟨[], authData 1 (zeros 32), appleStmt⟩ [] [] _ _ rfl rfl rfl
    apple_accepts0 apple_accepts1).1
  exact absurd this (by decide)

/-- self attestation: every Ed25519 key `k` accepts exactly one message, the authenticator data carrying `k` itself -/
def selfEnv : Prog.Env := ⟨fun q => match q with
  | .sigVerify _ _ (.ed k) m _ => .bool (m == authData 0 k)
  | _ => .none⟩

theorem selfEnv_ok : SigBinds selfEnv ∧ HashInj selfEnv := by
  refine ⟨⟨?_, ?_⟩, ⟨?_, ?_⟩⟩
  · intro der alg m m' sg h1; cases h1
  · intro sc hh k m m' sg h1 h2
    cases k with
    | ed k => exact (beq_iff_eq.1 (Resp.bool.inj h1)).trans (beq_iff_eq.1 (Resp.bool.inj h2)).symm
    | _ => cases h1
  · intro d d' v h1; cases h1
  · intro id d d' v h1; cases h1

def selfStmt : List (Bytes × Cbor.Value) := [(Att.s "alg", .nint 7)]
def ones : Bytes := List.replicate 32 1

theorem packed_self_accepts0 :
    Prog.run selfEnv (verifyPacked ⟨Att.s "packed", authData 0 (zeros 32), selfStmt⟩ []) = some ⟨"Self", []⟩ := by
  decide +kernel
theorem packed_self_accepts1 :
    Prog.run selfEnv (verifyPacked ⟨Att.s "packed", authData 0 ones, selfStmt⟩ []) = some ⟨"Self", []⟩ := by
  decide +kernel

/-- `packed_binds` without an extra hypothesis is FALSE: in self attestation the verification key is read from the
    authenticator data itself, so `SigBinds` (one message per key) does not relate two objects carrying different keys -/
theorem packed_binds_false :
    ¬ ∀ (env : Prog.Env) (_ : SigBinds env) (o o' : AttObj) (h h' : Bytes) (res res' : Result)
        (_ : o'.stmt = o.stmt) (_ : o'.fmt = o.fmt) (_ : h.length = h'.length)
        (_ : Prog.run env (verifyPacked o h) = some res) (_ : Prog.run env (verifyPacked o' h') = some res'),
        o.authData = o'.authData ∧ h = h' := by
  intro H
  have := (H selfEnv selfEnv_ok.1 ⟨Att.s "packed", authData 0 (zeros 32), selfStmt⟩ ⟨Att.s "packed", authData 0 ones, selfStmt⟩
    [] [] _ _ rfl rfl rfl packed_self_accepts0 packed_self_accepts1).1
  exact absurd this (by decide)

end Counter
end WebAuthn.C03

namespace WebAuthn.C03
open WebAuthn WebAuthn.Att

/-- SHA-256 is a total function of the environment (what `crypto/sha256` is): every question gets bytes -/
def ShaTotal (env : Prog.Env) : Prop := ∀ d, ∃ v, env.answer (.sha256 d) = .bytes v

/-- apple: under collision-freedom and totality of SHA-256, the statement binds the whole authenticator data and the client-data hash -/
theorem apple_binds (env : Prog.Env) (hi : Spec.Att.HashInj env) (ht : ShaTotal env) (o o' : AttObj) (h h' : Bytes) (res res' : Result)
    (hs : o'.stmt = o.stmt) (hl : h.length = h'.length)
    (hr : Prog.run env (verifyApple o h) = some res) (hr' : Prog.run env (verifyApple o' h') = some res') :
    o.authData = o'.authData ∧ h = h' :=
  apple_binds_partial env hi o o' h h' res res' hs hl (ht _) (ht _) hr hr'

/-- android-safetynet: likewise -/
theorem safetyNet_binds (env : Prog.Env) (hi : Spec.Att.HashInj env) (ht : ShaTotal env) (o o' : AttObj) (h h' : Bytes) (res res' : Result)
    (hs : o'.stmt = o.stmt) (hl : h.length = h'.length)
    (hr : Prog.run env (verifySafetyNet o h) = some res) (hr' : Prog.run env (verifySafetyNet o' h') = some res') :
    o.authData = o'.authData ∧ h = h' :=
  safetyNet_binds_partial env hi o o' h h' res res' hs hl (ht _) (ht _) hr hr'

end WebAuthn.C03
