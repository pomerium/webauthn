import WebAuthnModel.Proofs.CborFrame
import WebAuthnModel.Proofs.WorkLemmas
import WebAuthnModel.Model.Json
import WebAuthnModel.Model.Asn1
/-
  C09 — bounded work.  The decoders are total by construction; these theorems bound what they build: every node of a decoded CBOR tree
  consumed at least one input byte (so the tree, and every pass over it, is linear in the input), and the fuel the JSON and ASN.1
  element loops are started with is never what stops them.
-/
namespace WebAuthn.Theorems.C09Work
open WebAuthn WebAuthn.Cbor

mutual
/-- number of nodes of a decoded CBOR value (text and byte strings count as one node whatever their chunking) -/
def nodes : Value → Nat
  | .array xs => 1 + nodesList xs
  | .map kvs => 1 + nodesList kvs
  | .tag _ v => 1 + nodes v
  | _ => 1
def nodesList : List Value → Nat
  | [] => 0
  | v :: vs => nodes v + nodesList vs
end

mutual
/-- `nodes` is the node count `Cbor.size` that `Proofs/CborFrame` reasons about -/
theorem nodes_eq_size : ∀ v : Value, nodes v = size v
  | .array xs => by rw [nodes, size, nodesList_eq_sizeList xs]
  | .map kvs => by rw [nodes, size, nodesList_eq_sizeList kvs]
  | .tag _ v => by rw [nodes, size, nodes_eq_size v]
  | .uint _ => by simp [nodes, size]
  | .nint _ => by simp [nodes, size]
  | .bytes _ => by simp [nodes, size]
  | .text _ => by simp [nodes, size]
  | .simple _ => by simp [nodes, size]
  | .float _ _ => by simp [nodes, size]
theorem nodesList_eq_sizeList : ∀ vs : List Value, nodesList vs = sizeList vs
  | [] => by rw [nodesList, sizeList]
  | v :: vs => by rw [nodesList, sizeList, nodes_eq_size v, nodesList_eq_sizeList vs]
end

/-- every node of the decoded tree consumed at least one byte of the input -/
theorem decode_nodes_linear (b : Bytes) (v : Value) (r : Bytes) (h : decode b = some (v, r)) :
    nodes v + r.length ≤ b.length := by
  rw [nodes_eq_size]
  exact item_size_linear _ _ b v r h

/-- the JSON parser's fuel (`length + 1`) is never the reason for a rejection: more fuel gives the same answer -/
theorem json_fuel_sufficient (s : Bytes) (f : Nat) (hf : s.length + 1 ≤ f) :
    Json.parseValue f 0 s = Json.parseValue (s.length + 1) 0 s :=
  Json.parseValue_fuel_sufficient f 0 s hf

/-- nesting deeper than the limit is refused whatever the fuel: 10001 opening brackets -/
theorem json_depth_limited (f : Nat) (rest : Bytes) :
    Json.parseValue f Json.maxDepth (Json.c '[' :: rest) = none :=
  Json.parseValue_depth_limited f rest

end WebAuthn.Theorems.C09Work
