import WebAuthnModel.Model.Ceremony
import WebAuthnModel.Proofs.CborFrame
/-
  C10, last sentence: "UnmarshalAttestationObject yields exactly the fmt, authData and attStmt members of the CBOR map and
  the bytes following it."

  * `attObj_rest`            : the result's `rest` is what follows the one CBOR item that was decoded, whatever follows it;
  * `decodeAttObj_ignored`   : a further member (text key naming none of the three, or an integer key) anywhere in the map
                               changes nothing;
  * `decodeAttObj_three`     : the three members, in each of the six orders, decode to exactly their values;
  * `attEntries_first_wins`  : a repeated member after the first occurrence changes nothing.
-/
namespace WebAuthn.C10AttObj
open WebAuthn WebAuthn.Cbor

/-- a member key the decoder skips: a text key naming none of the three members, or an integer key (uint64 / int64 range) -/
def Ignored (k : Value) : Prop :=
  (∃ cs, k = .text cs ∧ cs.all utf8Valid = true ∧ matchAttField cs.flatten = none) ∨
  (∃ n, k = .uint n) ∨ (∃ n, k = .nint n ∧ n < 2 ^ 63)

/-- a repeated member: a text key naming a member that has already been seen -/
def Repeated (st : AttObjRaw) (k : Value) : Prop :=
  ∃ cs f, k = .text cs ∧ cs.all utf8Valid = true ∧ matchAttField cs.flatten = some f ∧ f ∈ st.found

theorem attEntries_pre_induction {motive : List Value → Prop} (nil : motive [])
    (one : ∀ a, motive [a]) (cons2 : ∀ a b l, motive l → motive (a :: b :: l)) : ∀ l, motive l
  | [] => nil
  | [a] => one a
  | a :: b :: l => cons2 a b l (attEntries_pre_induction nil one cons2 l)

theorem attEntry_ignored (st : AttObjRaw) (k v : Value) (h : Ignored k) : attEntry st k v = st := by
  rcases h with ⟨cs, rfl, hu, hm⟩ | ⟨n, rfl⟩ | ⟨n, rfl, hn⟩
  · simp [attEntry, hu, hm]
  · simp [attEntry]
  · simp [attEntry, hn]

theorem attEntry_repeated (st : AttObjRaw) (k v : Value) (h : Repeated st k) : attEntry st k v = st := by
  obtain ⟨cs, f, rfl, hu, hm, hf⟩ := h
  simp [attEntry, hu, hm, hf]

/-- a further member anywhere in the map (after an even number of items, i.e. at a key position) changes nothing -/
theorem attEntries_ignored (st : AttObjRaw) (pre post : List Value) (k v : Value) (hpre : pre.length % 2 = 0)
    (h : Ignored k) : attEntries st (pre ++ k :: v :: post) = attEntries st (pre ++ post) := by
  induction pre using attEntries_pre_induction generalizing st with
  | nil => simp [attEntries, attEntry_ignored _ _ _ h]
  | one a => simp at hpre
  | cons2 a b pre ih =>
    simp only [List.cons_append, attEntries]
    exact ih _ (by simp at hpre; omega)

theorem decodeAttObj_ignored (pre post : List Value) (k v : Value) (hpre : pre.length % 2 = 0) (h : Ignored k) :
    decodeAttObj (.map (pre ++ k :: v :: post)) = decodeAttObj (.map (pre ++ post)) := by
  simp only [decodeAttObj, attEntries_ignored _ pre post k v hpre h]

theorem perm_two {α : Type} {a b : α} {l : List α} (h : l.Perm [a, b]) : l = [a, b] ∨ l = [b, a] := by
  have hl := h.length_eq
  match l, hl with
  | [x, y], _ =>
    have hx : x ∈ [a, b] := h.mem_iff.mp (by simp)
    simp only [List.mem_cons, List.not_mem_nil, or_false] at hx
    rcases hx with rfl | rfl
    · have := List.perm_singleton.mp h.cons_inv
      simp_all
    · have h2 : [x, y].Perm [x, a] := h.trans (List.Perm.swap _ _ _)
      have := List.perm_singleton.mp h2.cons_inv
      simp_all

theorem perm_three {α : Type} {a b c : α} {l : List α} (h : l.Perm [a, b, c]) :
    l = [a, b, c] ∨ l = [a, c, b] ∨ l = [b, a, c] ∨ l = [b, c, a] ∨ l = [c, a, b] ∨ l = [c, b, a] := by
  have hl := h.length_eq
  match l, hl with
  | [x, y, z], _ =>
    have hx : x ∈ [a, b, c] := h.mem_iff.mp (by simp)
    simp only [List.mem_cons, List.not_mem_nil, or_false] at hx
    rcases hx with rfl | rfl | rfl
    · rcases perm_two h.cons_inv with h2 | h2 <;> simp_all
    · have h2 : [x, y, z].Perm [x, a, c] := h.trans (List.Perm.swap _ _ _)
      rcases perm_two h2.cons_inv with h2 | h2 <;> simp_all
    · have h2 : [x, y, z].Perm [x, a, b] :=
        h.trans (((List.Perm.swap _ _ _).cons a).trans (List.Perm.swap _ _ _))
      rcases perm_two h2.cons_inv with h2 | h2 <;> simp_all

def key (f : AttField) : Value := .text [attFieldName f]

/-- the three members with well-formed values -/
def members (f : List Bytes) (ad : Bytes) (st : List Value) : List (Value × Value) :=
  [(key .fmt, .text f), (key .attStmt, .map st), (key .authData, .bytes ad)]

def flat (ms : List (Value × Value)) : List Value := ms.flatMap (fun p => [p.1, p.2])

/-- exactly the three members: in every order they decode to their values (format text, authenticator data bytes, statement entries) -/
theorem decodeAttObj_three (f : List Bytes) (ad : Bytes) (st : List Value) (es : List (Bytes × Value))
    (hf : f.all utf8Valid = true) (hm : stmtModelled st = true) (hs : stmtEntries st = some es)
    (ms : List (Value × Value)) (hp : ms.Perm (members f ad st)) :
    decodeAttObj (.map (flat ms)) = .ok f.flatten ad es := by
  have m1 : matchAttField (attFieldName .fmt) = some .fmt := by decide +kernel
  have m2 : matchAttField (attFieldName .authData) = some .authData := by decide +kernel
  have m3 : matchAttField (attFieldName .attStmt) = some .attStmt := by decide +kernel
  have u1 : utf8Valid (attFieldName .fmt) = true := by decide +kernel
  have u2 : utf8Valid (attFieldName .authData) = true := by decide +kernel
  have u3 : utf8Valid (attFieldName .attStmt) = true := by decide +kernel
  rcases perm_three hp with rfl | rfl | rfl | rfl | rfl | rfl <;>
    simp [flat, key, decodeAttObj, attEntries, attEntry, m1, m2, m3, u1, u2, u3, hf, hm, hs]

/-- after the three members have been seen, any repetition of one of them (whatever its value) changes nothing -/
theorem attEntries_first_wins (st : AttObjRaw) (k v : Value) (post : List Value) (h : Repeated st k) :
    attEntries st (k :: v :: post) = attEntries st post := by
  simp only [attEntries, attEntry_repeated st k v h]

/-- `UnmarshalAttestationObject`: the remaining bytes are what follows the decoded item, and nothing after the item
    influences the decoded members -/
theorem attObj_rest (raw : Bytes) (o : Att.AttObj) (rest : Bytes) (h : unmarshalAttestationObject raw = .ok o rest) :
    ∃ item : Bytes, item ≠ [] ∧ raw = item ++ rest ∧ ∀ s : Bytes, unmarshalAttestationObject (item ++ s) = .ok o s := by
  unfold unmarshalAttestationObject at h
  cases hd : Cbor.decode raw with
  | none => rw [hd] at h; cases h
  | some vr =>
    obtain ⟨v, r⟩ := vr
    rw [hd] at h
    simp only at h
    cases ha : decodeAttObj v with
    | err => rw [ha] at h; cases h
    | unmodelled => rw [ha] at h; cases h
    | ok f ad st =>
      rw [ha] at h
      simp only [AttObjParse.ok.injEq] at h
      obtain ⟨rfl, rfl⟩ := h
      obtain ⟨p, hp, hb, hfr⟩ := Cbor.decode_frame _ _ _ hd
      refine ⟨p, hp, hb, fun s => ?_⟩
      unfold unmarshalAttestationObject
      rw [hfr s]
      simp only [ha]

/-- every proper prefix of the decoded item is rejected -/
theorem attObj_truncation (raw : Bytes) (o : Att.AttObj) (rest : Bytes) (h : unmarshalAttestationObject raw = .ok o rest)
    (m : Nat) (hm : m < raw.length - rest.length) : unmarshalAttestationObject (raw.take m) = .err := by
  unfold unmarshalAttestationObject at h
  cases hd : Cbor.decode raw with
  | none => rw [hd] at h; cases h
  | some vr =>
    obtain ⟨v, r⟩ := vr
    rw [hd] at h
    simp only at h
    cases ha : decodeAttObj v with
    | err => rw [ha] at h; cases h
    | unmodelled => rw [ha] at h; cases h
    | ok f ad st =>
      rw [ha] at h
      simp only [AttObjParse.ok.injEq] at h
      obtain ⟨rfl, rfl⟩ := h
      unfold unmarshalAttestationObject
      rw [Cbor.decode_truncation raw v r hd m hm]

/-! non-vacuity: a concrete object with two further members and trailing bytes -/
example : (match unmarshalAttestationObject
    ([0xa5, 0x63] ++ Bytes.ofString "fmt" ++ [0x64] ++ Bytes.ofString "none" ++ [0x65] ++ Bytes.ofString "epAtt" ++ [0xf5] ++
     [0x67] ++ Bytes.ofString "attStmt" ++ [0xa0] ++ [0x01, 0x02] ++ [0x68] ++ Bytes.ofString "authData" ++ [0x42, 7, 8] ++ [0xAA, 0xBB]) with
    | .ok o rest => o.fmt == Bytes.ofString "none" && o.authData == [7, 8] && rest == [0xAA, 0xBB]
    | _ => false) = true := by
  decide +kernel

end WebAuthn.C10AttObj
