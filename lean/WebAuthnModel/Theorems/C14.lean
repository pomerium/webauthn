import WebAuthnModel.Spec.Wire
import WebAuthnModel.Generated.Wire
import WebAuthnModel.Proofs.Base64
/-
  C14: JSON wire round trip.  For each of the eleven wire types, Unmarshal ∘ Marshal is the identity up to the
  `omitempty` normalisation `norm` (an empty-but-non-nil slice/map in an `omitempty` member comes back nil);
  binary members travel as unpadded base64url strings and every malformed binary member is an error.
-/
namespace WebAuthn.C14
open WebAuthn WebAuthn.Wire

/-! ## Definitions -/

/-- the values `vs` match the schema member by member (same length), each member satisfying `ty` -/
def TypedFieldsWith (ty : Kind → Val → Prop) : Schema → List Val → Prop
  | [], [] => True
  | fld :: sch, v :: vs => ty fld.kind v ∧ TypedFieldsWith ty sch vs
  | _, _ => False

/-- the value has the shape of the kind; the `Nat` bounds the nesting of structs exactly like the fuel of `decode` -/
def Typed (schemas : String → Schema) : Nat → Kind → Val → Prop
  | 0, _, _ => False
  | _ + 1, .bytes, .bytes _ => True
  | _ + 1, .nbytes, .bytes _ => True
  | _ + 1, .str, .str _ => True
  | _ + 1, .bool, .bool _ => True
  | _ + 1, .int, .int _ => True
  | _ + 1, .ms, .int _ => True
  | _ + 1, .any, .any none => True
  | _ + 1, .any, .any (some (.obj _)) => True
  | _ + 1, .strList, .strs _ => True
  | f + 1, .obj ty, .obj fs => TypedFieldsWith (Typed schemas f) (schemas ty) fs
  | _ + 1, .ptr _, .ptr none => True
  | f + 1, .ptr ty, .ptr (some (.obj fs)) => TypedFieldsWith (Typed schemas f) (schemas ty) fs
  | _ + 1, .objList _, .objs none => True
  | f + 1, .objList ty, .objs (some xs) =>
    ∀ x ∈ xs, ∃ fs, x = .obj fs ∧ TypedFieldsWith (Typed schemas f) (schemas ty) fs
  | _ + 1, _, _ => False

/-- normalise the members of a struct, given the normaliser for member values (`nrm kind omitempty value`) -/
def normFieldsWith (nrm : Kind → Bool → Val → Val) : Schema → List Val → List Val
  | fld :: sch, v :: vs => nrm fld.kind fld.omitempty v :: normFieldsWith nrm sch vs
  | _, _ => []

/-- normalise an element of a slice of structs -/
def normObjWith (nrm : Kind → Bool → Val → Val) (sch : Schema) : Val → Val
  | .obj fs => .obj (normFieldsWith nrm sch fs)
  | x => x

/-- what a value looks like after Marshal ∘ Unmarshal; the `Bool` is the member's `omitempty` -/
def norm (schemas : String → Schema) : Nat → Kind → Bool → Val → Val
  | 0, _, _, v => v
  | _ + 1, .any, true, .any (some (.obj [])) => .any none
  | _ + 1, .strList, true, .strs (some []) => .strs none
  | _ + 1, .objList _, true, .objs (some []) => .objs none
  | f + 1, .objList ty, _, .objs (some xs) =>
    .objs (some (xs.map (normObjWith (norm schemas f) (schemas ty))))
  | f + 1, .obj ty, _, .obj fs => .obj (normFieldsWith (norm schemas f) (schemas ty) fs)
  | f + 1, .ptr ty, _, .ptr (some (.obj fs)) => .ptr (some (.obj (normFieldsWith (norm schemas f) (schemas ty) fs)))
  | _ + 1, _, _, v => v

/-- induction over typed values: eleven shapes without members, and three with members, for whose members the statement
    is available at the fuel below -/
theorem typed_induction {schemas : String → Schema} {motive : Nat → Kind → Val → Prop}
    (bytes : ∀ f b, motive (f + 1) .bytes (.bytes b))
    (nbytes : ∀ f b, motive (f + 1) .nbytes (.bytes b))
    (str : ∀ f s, motive (f + 1) .str (.str s))
    (bool : ∀ f b, motive (f + 1) .bool (.bool b))
    (int : ∀ f i, motive (f + 1) .int (.int i))
    (ms : ∀ f i, motive (f + 1) .ms (.int i))
    (anyNone : ∀ f, motive (f + 1) .any (.any none))
    (anyObj : ∀ f kvs, motive (f + 1) .any (.any (some (.obj kvs))))
    (strList : ∀ f l, motive (f + 1) .strList (.strs l))
    (ptrNone : ∀ f ty, motive (f + 1) (.ptr ty) (.ptr none))
    (objsNone : ∀ f ty, motive (f + 1) (.objList ty) (.objs none))
    (obj : ∀ f ty fs, (∀ k v, Typed schemas f k v → motive f k v) →
      TypedFieldsWith (Typed schemas f) (schemas ty) fs → motive (f + 1) (.obj ty) (.obj fs))
    (ptr : ∀ f ty fs, (∀ k v, Typed schemas f k v → motive f k v) →
      TypedFieldsWith (Typed schemas f) (schemas ty) fs → motive (f + 1) (.ptr ty) (.ptr (some (.obj fs))))
    (objs : ∀ f ty xs, (∀ k v, Typed schemas f k v → motive f k v) →
      (∀ x ∈ xs, ∃ fs, x = .obj fs ∧ TypedFieldsWith (Typed schemas f) (schemas ty) fs) →
      motive (f + 1) (.objList ty) (.objs (some xs))) :
    ∀ f k v, Typed schemas f k v → motive f k v := by
  intro f
  induction f with
  | zero => intro k v ht; exact ht.elim
  | succ f ih =>
    intro k v ht
    generalize hg : f + 1 = g at ht ⊢
    revert ht
    fun_cases Typed schemas g k v <;> intro ht <;> cases hg <;> first | exact ht.elim | apply_assumption <;> assumption

/-! ## Easy facts about the encoder -/

/-- every schema has distinct member names (unknown names have the empty schema) -/
theorem schemas_nodup (ty : String) : ((Spec.Wire.schemas ty).map (·.name)).Nodup := by
  unfold Spec.Wire.schemas
  split <;>
    simp [Spec.Wire.rpEntity, Spec.Wire.userEntity, Spec.Wire.descriptor, Spec.Wire.parameters,
      Spec.Wire.authenticatorSelection, Spec.Wire.creationOptions, Spec.Wire.requestOptions,
      Spec.Wire.attestationResponse, Spec.Wire.assertionResponse, Spec.Wire.creationCredential,
      Spec.Wire.assertionCredential]

theorem schema_names_distinct : ∀ ty ∈ Spec.Wire.typeNames, ((Spec.Wire.schemas ty).map (·.name)).Nodup :=
  fun ty _ => schemas_nodup ty

theorem encode_bytes (schemas : String → Schema) (b : Bytes) :
    encode schemas .bytes (.bytes b) = .str (B64.encode b) := by
  rw [encode]

theorem encode_nbytes (schemas : String → Schema) (b : Bytes) :
    encode schemas .nbytes (.bytes b) = if b.isEmpty then .null else .str (B64.encode b) := by
  rw [encode]

theorem encode_ms (schemas : String → Schema) (i : Int) : encode schemas .ms (.int i) = .num i := by
  rw [encode]


/-! ## Rejection of malformed binary members -/

theorem decode_bytes_none (schemas : String → Schema) (f : Nat) (s : Bytes) (hne : s ≠ []) (h : B64.decode s = none) :
    decode schemas (f + 1) .bytes (.str s) = none ∧ decode schemas (f + 1) .nbytes (.str s) = none := by
  rw [decode, decode, B64.fromBase64URL, if_neg hne, h]
  exact ⟨rfl, rfl⟩

theorem decode_bytes_rejects_bad_char (schemas : String → Schema) (f : Nat) (s : Bytes) (c : UInt8) (hc : c ∈ s)
    (hv : B64.valOf c = none) (hn : B64.isNewline c = false) :
    decode schemas (f + 1) .bytes (.str s) = none ∧ decode schemas (f + 1) .nbytes (.str s) = none :=
  decode_bytes_none schemas f s (List.ne_nil_of_mem hc) (B64.decode_rejects_bad_char s c hc hv hn)

theorem decode_bytes_rejects_length (schemas : String → Schema) (f : Nat) (s : Bytes)
    (h : (s.filter (fun c => !B64.isNewline c)).length % 4 = 1) :
    decode schemas (f + 1) .bytes (.str s) = none ∧ decode schemas (f + 1) .nbytes (.str s) = none :=
  decode_bytes_none schemas f s (by rintro rfl; cases h) (B64.decode_rejects_length s h)

/-! ## Error propagation -/

theorem mapM_none_of_mem {α β : Type} (g : α → Option β) (l : List α) (a : α) (ha : a ∈ l) (hg : g a = none) :
    l.mapM g = none := by
  induction l with
  | nil => cases ha
  | cons x xs ih =>
    rw [List.mapM_cons]
    rcases List.mem_cons.1 ha with rfl | h
    · simp [hg]
    · simp [ih h]

theorem decodeFieldsWith_member_error (dec : Kind → Json → Option Val) (zeroOf : Kind → Val) (sch : Schema)
    (kvs : List (String × Json)) (fld : Field) (j : Json)
    (hf : fld ∈ sch) (hl : lookup kvs fld.name = some j) (he : dec fld.kind j = none) :
    decodeFieldsWith dec zeroOf sch kvs = none := by
  unfold decodeFieldsWith
  apply mapM_none_of_mem _ _ fld hf
  simp [hl, he]

/-- an error in a member fails the enclosing struct, at every fuel (hence at every nesting level) -/
theorem decode_obj_member_error (schemas : String → Schema) (f : Nat) (ty : String) (kvs : List (String × Json))
    (fld : Field) (j : Json)
    (hf : fld ∈ schemas ty) (hl : lookup kvs fld.name = some j) (he : decode schemas f fld.kind j = none) :
    decode schemas (f + 1) (.obj ty) (.obj kvs) = none ∧ decode schemas (f + 1) (.ptr ty) (.obj kvs) = none := by
  simp [decode, decodeFieldsWith_member_error _ _ _ kvs fld j hf hl he]

/-- … and an erroneous element fails a list of structs -/
theorem decode_objList_member_error (schemas : String → Schema) (f : Nat) (ty : String) (xs : List Json)
    (kvs : List (String × Json)) (fld : Field) (j : Json) (hx : Json.obj kvs ∈ xs)
    (hf : fld ∈ schemas ty) (hl : lookup kvs fld.name = some j) (he : decode schemas f fld.kind j = none) :
    decode schemas (f + 1) (.objList ty) (.arr xs) = none := by
  simp only [decode]
  rw [mapM_none_of_mem (l := xs) (a := Json.obj kvs) (ha := hx)]
  · rfl
  · simp [decodeFieldsWith_member_error _ _ _ kvs fld j hf hl he]

theorem unmarshal_member_error (ty : String) (kvs : List (String × Json)) (fld : Field) (j : Json)
    (hf : fld ∈ Spec.Wire.schemas ty) (hl : lookup kvs fld.name = some j)
    (he : decode Spec.Wire.schemas 3 fld.kind j = none) :
    unmarshal Spec.Wire.schemas ty (.obj kvs) = none :=
  (decode_obj_member_error Spec.Wire.schemas 3 ty kvs fld j hf hl he).1


/-! ## Lookup in an encoded member list -/

theorem lookup_cons (k : String) (j : Json) (rest : List (String × Json)) (n : String) :
    lookup ((k, j) :: rest) n = if k = n then some j else lookup rest n := by
  unfold lookup
  by_cases h : k = n <;> simp [h]

theorem lookup_eq_none (kvs : List (String × Json)) (n : String) (h : ∀ e ∈ kvs, e.1 ≠ n) : lookup kvs n = none := by
  simpa [lookup] using h

theorem lookup_append (pre l : List (String × Json)) (n : String) :
    lookup (pre ++ l) n = (lookup pre n).or (lookup l n) := by
  simp only [lookup, List.find?_append]
  cases pre.find? _ <;> rfl

/-- the second skip condition of `encodeFields` is subsumed by the first -/
theorem encodeFields_cons (schemas : String → Schema) (fld : Field) (sch : Schema) (v : Val) (vs : List Val) :
    encodeFields schemas (fld :: sch) (v :: vs) =
      if fld.omitempty && isEmpty v then encodeFields schemas sch vs
      else (fld.name, encode schemas fld.kind v) :: encodeFields schemas sch vs := by
  simp only [encodeFields]
  by_cases h1 : (fld.omitempty && isEmpty v) = true
  · simp [h1]
  · rw [if_neg h1, if_neg h1]
    cases v <;> simp_all [isEmpty]

theorem encodeFields_keys (schemas : String → Schema) (sch : Schema) (vs : List Val) :
    ∀ e ∈ encodeFields schemas sch vs, e.1 ∈ sch.map (·.name) := by
  induction sch generalizing vs with
  | nil => simp [encodeFields]
  | cons fld sch ih =>
    cases vs with
    | nil => simp [encodeFields]
    | cons v vs =>
      have ih' := fun e he => List.mem_cons_of_mem fld.name (ih vs e he)
      rw [encodeFields_cons]
      split
      · exact ih'
      · exact List.forall_mem_cons.2 ⟨List.mem_cons_self, ih'⟩

/-! ## Member-level facts about `norm` -/

/-- `omitempty` on a typed member: an empty value becomes the zero value, any other is normalised as without the flag -/
theorem norm_omitempty (schemas : String → Schema) (f' : Nat) (o : Bool) : ∀ f k v, Typed schemas f k v →
    norm schemas f k o v = if o && isEmpty v then zero schemas f' k else norm schemas f k false v := by
  cases o
  · intros; rfl
  apply typed_induction
  case anyObj => intro _ kvs; cases kvs <;> simp [norm, zero, isEmpty]
  case strList => intro _ l; rcases l with _ | _ | _ <;> simp [norm, zero, isEmpty]
  case objs => intro _ _ xs _ _; cases xs <;> simp [norm, zero, isEmpty]
  all_goals intros; simp [norm, zero, isEmpty]

theorem strsOf_map_str (xs : List Bytes) : strsOf (xs.map Json.str) = some xs := by
  induction xs with
  | nil => rfl
  | cons x xs ih => simp [strsOf, ih]

/-! ## The round trip -/

theorem decodeFieldsWith_cons (dec : Kind → Json → Option Val) (zeroOf : Kind → Val) (fld : Field) (sch : Schema)
    (kvs : List (String × Json)) :
    decodeFieldsWith dec zeroOf (fld :: sch) kvs =
      ((match lookup kvs fld.name with
        | none => some (zeroOf fld.kind)
        | some j => dec fld.kind j).bind fun b =>
        (decodeFieldsWith dec zeroOf sch kvs).bind fun bs => some (b :: bs)) := by
  unfold decodeFieldsWith
  rw [List.mapM_cons]
  rfl

/-- struct level, given the member-level round trip at fuel `f`: looking every schema member up by name in the
    encoded member list (after an arbitrary prefix `pre` that holds none of the names) recovers the normalised members -/
theorem fields_roundtrip (schemas : String → Schema) (f : Nat)
    (ih : ∀ k v, Typed schemas f k v → decode schemas f k (encode schemas k v) = some (norm schemas f k false v)) :
    ∀ (sch : Schema) (vs : List Val), TypedFieldsWith (Typed schemas f) sch vs →
      ∀ pre : List (String × Json), (sch.map (·.name)).Nodup → (∀ fld ∈ sch, lookup pre fld.name = none) →
      decodeFieldsWith (decode schemas f) (zero schemas f) sch (pre ++ encodeFields schemas sch vs)
        = some (normFieldsWith (norm schemas f) sch vs) := by
  intro sch vs
  fun_induction TypedFieldsWith (Typed schemas f) sch vs with
  | case1 => intros; rfl
  | case3 => exact False.elim
  | case2 fld sch v vs ihs =>
    rintro ⟨htv, hts⟩ pre hnd hpre
    obtain ⟨hn1, hnd⟩ : fld.name ∉ sch.map (·.name) ∧ (sch.map (·.name)).Nodup := List.nodup_cons.1 hnd
    obtain ⟨hp1, hp2⟩ := List.forall_mem_cons.1 hpre
    rw [decodeFieldsWith_cons, encodeFields_cons, normFieldsWith, norm_omitempty schemas f _ f _ v htv, lookup_append, hp1,
      Option.none_or]
    by_cases hskip : (fld.omitempty && isEmpty v) = true
    · simp only [if_pos hskip]
      have hk : ∀ e ∈ encodeFields schemas sch vs, e.1 ≠ fld.name :=
        fun e he h => hn1 (h ▸ encodeFields_keys schemas sch vs e he)
      rw [lookup_eq_none _ _ hk, ihs hts pre hnd hp2]
      rfl
    · simp only [if_neg hskip]
      have hrest := ihs hts (pre ++ [(fld.name, encode schemas fld.kind v)]) hnd fun g hg => by
        have hne : fld.name ≠ g.name := fun h => hn1 (h ▸ List.mem_map_of_mem hg)
        rw [lookup_append, hp2 g hg, lookup_cons, if_neg hne]
        rfl
      rw [List.append_assoc, List.singleton_append] at hrest
      rw [lookup_cons, if_pos rfl, hrest]
      simp only [ih _ _ htv]
      rfl

theorem encodeObjs_eq_map (schemas : String → Schema) (sch : Schema) (xs : List Val) :
    encodeObjs schemas sch xs = xs.map (fun x => match x with
      | .obj fs => Json.obj (encodeFields schemas sch fs)
      | _ => Json.null) := by
  induction xs with
  | nil => simp [encodeObjs]
  | cons x xs ih => cases x <;> simp [encodeObjs, ih]

theorem mapM_eq_some_map {α β γ : Type} (g : β → Option γ) (e : α → β) (n : α → γ) (l : List α)
    (h : ∀ a ∈ l, g (e a) = some (n a)) : (l.map e).mapM g = some (l.map n) := by
  induction l with
  | nil => simp
  | cons a l ih =>
    rw [List.map_cons, List.mapM_cons, h a (by simp), ih (fun a ha => h a (by simp [ha]))]
    rfl

/-- member level, for any schema table whose schemas have distinct member names -/
theorem member_roundtrip (schemas : String → Schema) (hnd : ∀ ty, ((schemas ty).map (·.name)).Nodup) :
    ∀ f k v, Typed schemas f k v → decode schemas f k (encode schemas k v) = some (norm schemas f k false v) := by
  have fr := fun f ih ty vs ht => fields_roundtrip schemas f ih (schemas ty) vs ht [] (hnd ty) fun _ _ => rfl
  simp only [List.nil_append] at fr
  apply typed_induction
  case nbytes => intro _ b; cases b <;> simp [encode, decode, norm, zero, B64.fromBase64URL_encode]
  case strList => intro _ l; cases l <;> simp [encode, decode, norm, zero, strsOf_map_str]
  case obj | ptr => intro f ty fs ih ht; simp [encode, decode, norm, fr f ih ty fs ht]
  case objs =>
    intro f ty xs ih ht
    simp only [encode, decode, norm]
    rw [encodeObjs_eq_map, mapM_eq_some_map (n := normObjWith (norm schemas f) (schemas ty))]
    · rfl
    · intro x hx
      obtain ⟨fs, rfl, hfs⟩ := ht x hx
      simp [normObjWith, fr f ih ty fs hfs]
  all_goals intros; simp [encode, decode, norm, zero, B64.fromBase64URL_encode]

set_option linter.unusedVariables false in
/-- THE ROUND TRIP: for each of the eleven wire types and every well-typed value, Unmarshal(Marshal v) = norm v -/
theorem wire_roundtrip (ty : String) (hty : ty ∈ Spec.Wire.typeNames) (v : Val)
    (hv : Typed Spec.Wire.schemas 4 (.obj ty) v) :
    unmarshal Spec.Wire.schemas ty (marshal Spec.Wire.schemas ty v)
      = some (norm Spec.Wire.schemas 4 (.obj ty) false v) :=
  member_roundtrip Spec.Wire.schemas schemas_nodup 4 (.obj ty) v hv

/-! ## `norm` is idempotent -/

theorem normFields_idem (nrm : Kind → Bool → Val → Val) (h : ∀ k o v, nrm k o (nrm k o v) = nrm k o v) (sch : Schema)
    (vs : List Val) : normFieldsWith nrm sch (normFieldsWith nrm sch vs) = normFieldsWith nrm sch vs := by
  fun_induction normFieldsWith nrm sch vs with
  | case1 fld sch v vs ih => simp only [normFieldsWith, h, ih]
  | case2 => simp [normFieldsWith]

/-- for every value, typed or not: the case analysis is `norm`'s own -/
theorem norm_idem_gen (schemas : String → Schema) :
    ∀ f k o v, norm schemas f k o (norm schemas f k o v) = norm schemas f k o v := by
  intro f
  induction f with
  | zero => intros; rfl
  | succ f ih =>
    intro k o v
    have nf := normFields_idem (norm schemas f) ih
    have no (sch : Schema) (x : Val) : normObjWith (norm schemas f) sch (normObjWith (norm schemas f) sch x)
        = normObjWith (norm schemas f) sch x := by cases x <;> simp [normObjWith, nf]
    generalize hg : f + 1 = g
    fun_cases norm schemas g k o v <;> cases hg <;> simp [norm, *]
    -- left: a list of structs, not both `omitempty` and empty
    rename_i xs _
    cases o <;> cases xs <;> simp_all [norm]

set_option linter.unusedVariables false in
/-- norm is idempotent, and a normal value round-trips unchanged -/
theorem norm_idem (ty : String) (hty : ty ∈ Spec.Wire.typeNames) (v : Val)
    (hv : Typed Spec.Wire.schemas 4 (.obj ty) v) :
    norm Spec.Wire.schemas 4 (.obj ty) false (norm Spec.Wire.schemas 4 (.obj ty) false v)
      = norm Spec.Wire.schemas 4 (.obj ty) false v :=
  norm_idem_gen Spec.Wire.schemas 4 (.obj ty) false v

/-! ## Re-marshalling -/

theorem isEmpty_norm (schemas : String → Schema) (f : Nat) (k : Kind) (o : Bool) (v : Val) :
    isEmpty (norm schemas f k o v) = isEmpty v := by
  fun_cases norm schemas f k o v <;> simp [isEmpty]

theorem norm_of_not_skipped (schemas : String → Schema) (f : Nat) (k : Kind) (o : Bool) (v : Val)
    (h : (o && isEmpty v) = false) : norm schemas f k o v = norm schemas f k false v := by
  cases o
  · rfl
  revert h
  fun_cases norm schemas f k true v <;> intro h <;> first | rfl | cases h | simp [norm, *]

theorem encodeFields_norm (schemas : String → Schema) (f : Nat)
    (ih : ∀ k v, encode schemas k (norm schemas f k false v) = encode schemas k v) (sch : Schema) (vs : List Val) :
    encodeFields schemas sch (normFieldsWith (norm schemas f) sch vs) = encodeFields schemas sch vs := by
  fun_induction normFieldsWith (norm schemas f) sch vs with
  | case1 fld sch v vs ihs =>
    rw [encodeFields_cons, encodeFields_cons, ihs, isEmpty_norm]
    split
    · rfl
    · rw [norm_of_not_skipped _ _ _ _ _ (Bool.eq_false_iff.2 ‹_›), ih]
  | case2 sch vs h =>
    cases sch <;> cases vs <;> first | rfl | exact (h _ _ _ _ rfl rfl).elim

theorem encode_norm (schemas : String → Schema) :
    ∀ f k v, encode schemas k (norm schemas f k false v) = encode schemas k v := by
  intro f
  induction f with
  | zero => intros; rfl
  | succ f ih =>
    intro k v
    have ef := encodeFields_norm schemas f ih
    generalize hg : f + 1 = g
    generalize ho : false = o
    fun_cases norm schemas g k o v <;> cases hg <;> cases ho <;> simp [encode, encodeObjs_eq_map, *]
    -- left: the elements of a list of structs
    intro x _
    cases x <;> simp [normObjWith, ef]

set_option linter.unusedVariables false in
/-- re-marshalling the unmarshalled value yields the same document -/
theorem remarshal_stable (ty : String) (hty : ty ∈ Spec.Wire.typeNames) (v : Val)
    (hv : Typed Spec.Wire.schemas 4 (.obj ty) v) :
    marshal Spec.Wire.schemas ty (norm Spec.Wire.schemas 4 (.obj ty) false v) = marshal Spec.Wire.schemas ty v :=
  encode_norm Spec.Wire.schemas 4 (.obj ty) v

/-- a value that already is normal (e.g. one produced by Unmarshal) round-trips exactly -/
theorem wire_roundtrip_normal (ty : String) (hty : ty ∈ Spec.Wire.typeNames) (v : Val)
    (hv : Typed Spec.Wire.schemas 4 (.obj ty) v) (hn : norm Spec.Wire.schemas 4 (.obj ty) false v = v) :
    unmarshal Spec.Wire.schemas ty (marshal Spec.Wire.schemas ty v) = some v := by
  rw [wire_roundtrip ty hty v hv, hn]

/-! ## Non-vacuity -/

/-- an assertion credential: non-empty rawId, nil userHandle, an extensions map -/
def exAssertion : Val :=
  .obj [.str [65, 81], .str [112, 107], .bytes [1, 2, 3],
    .obj [.bytes [123, 125], .bytes [4, 5, 6, 7], .bytes [48, 0], .bytes []],
    .any (some (.obj [("appid", .bool true)]))]

theorem exAssertion_typed : Typed Spec.Wire.schemas 4 (.obj "assertionCredential") exAssertion := by
  simp only [exAssertion, Typed, TypedFieldsWith, Spec.Wire.schemas, Spec.Wire.assertionCredential,
    Spec.Wire.assertionResponse, and_self]

theorem exAssertion_normal : norm Spec.Wire.schemas 4 (.obj "assertionCredential") false exAssertion = exAssertion := by
  simp only [exAssertion, norm, normFieldsWith, Spec.Wire.schemas, Spec.Wire.assertionCredential,
    Spec.Wire.assertionResponse]

example : norm Spec.Wire.schemas 4 (.obj "assertionCredential") false exAssertion = exAssertion := exAssertion_normal

example : unmarshal Spec.Wire.schemas "assertionCredential"
    (marshal Spec.Wire.schemas "assertionCredential" exAssertion) = some exAssertion :=
  wire_roundtrip_normal _ (by simp [Spec.Wire.typeNames]) _ exAssertion_typed exAssertion_normal

/-- the document: rawId as an unpadded base64url string, the nil userHandle as `null` -/
example : marshal Spec.Wire.schemas "assertionCredential" exAssertion =
    .obj [("id", .str [65, 81]), ("type", .str [112, 107]), ("rawId", .str (B64.encode [1, 2, 3])),
      ("response", .obj [("clientDataJSON", .str (B64.encode [123, 125])),
        ("authenticatorData", .str (B64.encode [4, 5, 6, 7])), ("signature", .str (B64.encode [48, 0])),
        ("userHandle", .null)]),
      ("clientExtensionResults", .obj [("appid", .bool true)])] := by
  simp [exAssertion, marshal, encode, encodeFields, isEmpty, Spec.Wire.schemas, Spec.Wire.assertionCredential,
    Spec.Wire.assertionResponse]

/-- the normalisation is visible: an empty non-nil `allowCredentials` / `extensions` comes back nil -/
def exRequest : Val :=
  .obj [.bytes [9, 9], .int 60000, .str [], .objs (some []), .str [], .any (some (.obj []))]

example : Typed Spec.Wire.schemas 4 (.obj "requestOptions") exRequest := by
  simp only [exRequest, Typed, TypedFieldsWith, Spec.Wire.schemas, Spec.Wire.requestOptions, List.not_mem_nil,
    false_imp_iff, implies_true, and_self]

example : norm Spec.Wire.schemas 4 (.obj "requestOptions") false exRequest =
    .obj [.bytes [9, 9], .int 60000, .str [], .objs none, .str [], .any none] := by
  simp only [exRequest, norm, normFieldsWith, Spec.Wire.schemas, Spec.Wire.requestOptions]

/-- the deepest type (struct → slice of structs → members) is inhabited at fuel 4, and normalisation reaches the
    innermost level (`transports`) -/
def exCreation : Val :=
  .obj [.obj [.str [], .str [65]], .obj [.bytes [], .str [66], .str [67]], .bytes [1],
    .objs (some [.obj [.str [112], .int (-7)]]), .int 0,
    .objs (some [.obj [.str [112], .bytes [5], .strs (some [])]]),
    .ptr (some (.obj [.str [], .str [], .bool false, .str [114]])), .str [], .any none]

example : Typed Spec.Wire.schemas 4 (.obj "creationOptions") exCreation := by
  simp only [exCreation, Typed, TypedFieldsWith, Spec.Wire.schemas, Spec.Wire.creationOptions, Spec.Wire.rpEntity,
    Spec.Wire.userEntity, Spec.Wire.parameters, Spec.Wire.descriptor, Spec.Wire.authenticatorSelection,
    List.mem_singleton, forall_eq, Val.obj.injEq, exists_eq_left', and_self]

example : norm Spec.Wire.schemas 4 (.obj "creationOptions") false exCreation =
    .obj [.obj [.str [], .str [65]], .obj [.bytes [], .str [66], .str [67]], .bytes [1],
      .objs (some [.obj [.str [112], .int (-7)]]), .int 0,
      .objs (some [.obj [.str [112], .bytes [5], .strs none]]),
      .ptr (some (.obj [.str [], .str [], .bool false, .str [114]])), .str [], .any none] := by
  simp only [exCreation, norm, normFieldsWith, normObjWith, Spec.Wire.schemas, Spec.Wire.creationOptions,
    Spec.Wire.rpEntity, Spec.Wire.userEntity, Spec.Wire.parameters, Spec.Wire.descriptor,
    Spec.Wire.authenticatorSelection, List.map_cons, List.map_nil]

end WebAuthn.C14

/-! ### the regenerated facts about the Marshal/Unmarshal methods (translator T7) are the reviewed ones

  Which members each `MarshalJSON` shadows, with which Go type, JSON tag and helper (`toBase64URL`, `toNullableBase64URL`,
  `.Milliseconds()`), which receiver kind it has (all value receivers: marshalling a value and a pointer give the same document),
  what each `UnmarshalJSON` assigns from which helper, the struct tags of the eleven wire structs, and the encoding the four helpers use.
  Any edit to those methods changes a generated definition and breaks one of these proofs. -/
namespace WebAuthn.C14

theorem structFields_pinned : Generated.Wire.structFields = [
  ("PublicKeyCredentialRPEntity", [("ID", "string", "json:\"id,omitempty\""), ("Name", "string", "json:\"name\"")]),
  ("PublicKeyCredentialUserEntity", [("ID", "[]byte", "json:\"id\""), ("DisplayName", "string", "json:\"displayName\""), ("Name", "string", "json:\"name\"")]),
  ("PublicKeyCredentialDescriptor", [("Type", "PublicKeyCredentialType", "json:\"type\""), ("ID", "[]byte", "json:\"id\""), ("Transports", "[]AuthenticatorTransport", "json:\"transports,omitempty\"")]),
  ("PublicKeyCredentialParameters", [("Type", "PublicKeyCredentialType", "json:\"type\""), ("COSEAlgorithmIdentifier", "Algorithm", "json:\"alg\"")]),
  ("AuthenticatorSelectionCriteria", [("AuthenticatorAttachment", "AuthenticatorAttachment", "json:\"authenticatorAttachment,omitempty\""), ("ResidentKey", "ResidentKeyType", "json:\"residentKey,omitempty\""), ("RequireResidentKey", "bool", "json:\"requireResidentKey\""), ("UserVerification", "UserVerificationRequirement", "json:\"userVerification,omitempty\"")]),
  ("PublicKeyCredentialCreationOptions", [("RP", "PublicKeyCredentialRPEntity", "json:\"rp\""), ("User", "PublicKeyCredentialUserEntity", "json:\"user\""), ("Challenge", "[]byte", "json:\"challenge\""), ("PubKeyCredParams", "[]PublicKeyCredentialParameters", "json:\"pubKeyCredParams\""), ("Timeout", "Duration", "json:\"timeout,omitempty\""), ("ExcludeCredentials", "[]PublicKeyCredentialDescriptor", "json:\"excludeCredentials,omitempty\""), ("AuthenticatorSelection", "*AuthenticatorSelectionCriteria", "json:\"authenticatorSelection,omitempty\""), ("Attestation", "AttestationConveyancePreference", "json:\"attestation,omitempty\""), ("Extensions", "map[string]interface{}", "json:\"extensions,omitempty\"")]),
  ("PublicKeyCredentialRequestOptions", [("Challenge", "[]byte", "json:\"challenge\""), ("Timeout", "Duration", "json:\"timeout,omitempty\""), ("RPID", "string", "json:\"rpId,omitempty\""), ("AllowCredentials", "[]PublicKeyCredentialDescriptor", "json:\"allowCredentials,omitempty\""), ("UserVerification", "UserVerificationRequirement", "json:\"userVerification,omitempty\""), ("Extensions", "map[string]interface{}", "json:\"extensions,omitempty\"")]),
  ("AuthenticatorAttestationResponse", [("ClientDataJSON", "[]byte", "json:\"clientDataJSON\""), ("AttestationObject", "[]byte", "json:\"attestationObject\"")]),
  ("AuthenticatorAssertionResponse", [("ClientDataJSON", "[]byte", "json:\"clientDataJSON\""), ("AuthenticatorData", "[]byte", "json:\"authenticatorData\""), ("Signature", "[]byte", "json:\"signature\""), ("UserHandle", "[]byte", "json:\"userHandle\"")]),
  ("PublicKeyCreationCredential", [("ID", "string", "json:\"id\""), ("Type", "PublicKeyCredentialType", "json:\"type\""), ("RawID", "[]byte", "json:\"rawId\""), ("Response", "AuthenticatorAttestationResponse", "json:\"response\""), ("ClientExtensionResults", "map[string]interface{}", "json:\"clientExtensionResults,omitempty\"")]),
  ("PublicKeyAssertionCredential", [("ID", "string", "json:\"id\""), ("Type", "PublicKeyCredentialType", "json:\"type\""), ("RawID", "[]byte", "json:\"rawId\""), ("Response", "AuthenticatorAssertionResponse", "json:\"response\""), ("ClientExtensionResults", "map[string]interface{}", "json:\"clientExtensionResults,omitempty\"")])
] := rfl

theorem marshalFacts_pinned : Generated.Wire.marshalFacts = [
  ("AuthenticatorAssertionResponse", "value", [("<embedded>", "Override", ""), ("ClientDataJSON", "string", "json:\"clientDataJSON\""), ("AuthenticatorData", "string", "json:\"authenticatorData\""), ("Signature", "string", "json:\"signature\""), ("UserHandle", "*string", "json:\"userHandle\"")], [("Override", "Override(response)"), ("ClientDataJSON", "toBase64URL(recv.ClientDataJSON)"), ("AuthenticatorData", "toBase64URL(recv.AuthenticatorData)"), ("Signature", "toBase64URL(recv.Signature)"), ("UserHandle", "toNullableBase64URL(recv.UserHandle)")]),
  ("AuthenticatorAttestationResponse", "value", [("<embedded>", "Override", ""), ("ClientDataJSON", "string", "json:\"clientDataJSON\""), ("AttestationObject", "string", "json:\"attestationObject\"")], [("Override", "Override(response)"), ("ClientDataJSON", "toBase64URL(recv.ClientDataJSON)"), ("AttestationObject", "toBase64URL(recv.AttestationObject)")]),
  ("PublicKeyAssertionCredential", "value", [("<embedded>", "Override", ""), ("RawID", "string", "json:\"rawId\"")], [("Override", "Override(credential)"), ("RawID", "toBase64URL(recv.RawID)")]),
  ("PublicKeyCreationCredential", "value", [("<embedded>", "Override", ""), ("RawID", "string", "json:\"rawId\"")], [("Override", "Override(credential)"), ("RawID", "toBase64URL(recv.RawID)")]),
  ("PublicKeyCredentialCreationOptions", "value", [("<embedded>", "Override", ""), ("Challenge", "string", "json:\"challenge\""), ("Timeout", "int64", "json:\"timeout\"")], [("Override", "Override(creationOptions)"), ("Challenge", "toBase64URL(recv.Challenge)"), ("Timeout", "recv.Timeout.Milliseconds()")]),
  ("PublicKeyCredentialDescriptor", "value", [("<embedded>", "Override", ""), ("ID", "string", "json:\"id\"")], [("Override", "Override(descriptor)"), ("ID", "toBase64URL(recv.ID)")]),
  ("PublicKeyCredentialRequestOptions", "value", [("<embedded>", "Override", ""), ("Challenge", "string", "json:\"challenge\""), ("Timeout", "int64", "json:\"timeout\"")], [("Override", "Override(requestOptions)"), ("Challenge", "toBase64URL(recv.Challenge)"), ("Timeout", "recv.Timeout.Milliseconds()")]),
  ("PublicKeyCredentialUserEntity", "value", [("<embedded>", "Override", ""), ("ID", "*string", "json:\"id,omitempty\"")], [("Override", "Override(user)"), ("ID", "toNullableBase64URL(recv.ID)")])
] := rfl

theorem unmarshalFacts_pinned : Generated.Wire.unmarshalFacts = [
  ("AuthenticatorAssertionResponse", "pointer", [("<embedded>", "Override", ""), ("ClientDataJSON", "string", "json:\"clientDataJSON\""), ("AuthenticatorData", "string", "json:\"authenticatorData\""), ("Signature", "string", "json:\"signature\""), ("UserHandle", "*string", "json:\"userHandle\"")], [("err", "json.Unmarshal(raw,&override)"), ("*response", "AuthenticatorAssertionResponse(override.Override)"), ("recv.ClientDataJSON,err", "fromBase64URL(override.ClientDataJSON)"), ("recv.AuthenticatorData,err", "fromBase64URL(override.AuthenticatorData)"), ("recv.Signature,err", "fromBase64URL(override.Signature)"), ("recv.UserHandle,err", "fromNullableBase64URL(override.UserHandle)")]),
  ("AuthenticatorAttestationResponse", "pointer", [("<embedded>", "Override", ""), ("ClientDataJSON", "string", "json:\"clientDataJSON\""), ("AttestationObject", "string", "json:\"attestationObject\"")], [("err", "json.Unmarshal(raw,&override)"), ("*response", "AuthenticatorAttestationResponse(override.Override)"), ("recv.ClientDataJSON,err", "fromBase64URL(override.ClientDataJSON)"), ("recv.AttestationObject,err", "fromBase64URL(override.AttestationObject)")]),
  ("PublicKeyAssertionCredential", "pointer", [("<embedded>", "Override", ""), ("RawID", "string", "json:\"rawId\"")], [("err", "json.Unmarshal(raw,&override)"), ("*credential", "PublicKeyAssertionCredential(override.Override)"), ("recv.RawID,err", "fromBase64URL(override.RawID)")]),
  ("PublicKeyCreationCredential", "pointer", [("<embedded>", "Override", ""), ("RawID", "string", "json:\"rawId\"")], [("err", "json.Unmarshal(raw,&override)"), ("*credential", "PublicKeyCreationCredential(override.Override)"), ("recv.RawID,err", "fromBase64URL(override.RawID)")]),
  ("PublicKeyCredentialCreationOptions", "pointer", [("<embedded>", "Override", ""), ("Challenge", "string", "json:\"challenge\""), ("Timeout", "int64", "json:\"timeout\"")], [("err", "json.Unmarshal(raw,&override)"), ("*creationOptions", "PublicKeyCredentialCreationOptions(override.Override)"), ("recv.Challenge,err", "fromBase64URL(override.Challenge)"), ("recv.Timeout", "time.Duration(override.Timeout) * time.Millisecond")]),
  ("PublicKeyCredentialDescriptor", "pointer", [("<embedded>", "Override", ""), ("ID", "string", "json:\"id\"")], [("err", "json.Unmarshal(raw,&override)"), ("*descriptor", "PublicKeyCredentialDescriptor(override.Override)"), ("recv.ID,err", "fromBase64URL(override.ID)")]),
  ("PublicKeyCredentialRequestOptions", "pointer", [("<embedded>", "Override", ""), ("Challenge", "string", "json:\"challenge\""), ("Timeout", "int64", "json:\"timeout\"")], [("err", "json.Unmarshal(raw,&override)"), ("*requestOptions", "PublicKeyCredentialRequestOptions(override.Override)"), ("recv.Challenge,err", "fromBase64URL(override.Challenge)"), ("recv.Timeout", "time.Duration(override.Timeout) * time.Millisecond")]),
  ("PublicKeyCredentialUserEntity", "pointer", [("<embedded>", "Override", ""), ("ID", "*string", "json:\"id,omitempty\"")], [("err", "json.Unmarshal(raw,&override)"), ("*user", "PublicKeyCredentialUserEntity(override.Override)"), ("recv.ID,err", "fromNullableBase64URL(override.ID)")])
] := rfl

theorem base64Helpers_pinned : Generated.Wire.base64Helpers = ["fromBase64URL: base64.RawURLEncoding.DecodeString | encoded == \"\"", "toBase64URL: base64.RawURLEncoding.EncodeToString | ", "fromNullableBase64URL: base64.RawURLEncoding.DecodeString | encoded == nil || *encoded == \"\"", "toNullableBase64URL: base64.RawURLEncoding.EncodeToString | len(raw) == 0"] := rfl

/-- every MarshalJSON of a wire type has a value receiver and every UnmarshalJSON a pointer receiver -/
theorem receivers : Generated.Wire.marshalFacts.all (fun m => m.2.1 == "value") = true ∧
    Generated.Wire.unmarshalFacts.all (fun m => m.2.1 == "pointer") = true := by decide

end WebAuthn.C14
