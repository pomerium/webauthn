import WebAuthnModel.Spec.Tpm
/-
  C17 — tpm vendor ids / hardware details from the SAN, and the android Keymaster schema tables.
-/
namespace WebAuthn.C17
open WebAuthn

/-! ### UnmarshalVendorID -/

theorem idPrefix_eq : Tpm.idPrefix = [105, 100, 58] := by decide +kernel

theorem hexDigit_eq (c : UInt8) :
    Tpm.hexDigit c = if Spec.Tpm.isHex c = true then some (Spec.Tpm.hexVal c) else none := by
  unfold Tpm.hexDigit Spec.Tpm.isHex Spec.Tpm.hexVal
  by_cases d : 48 ≤ c.toNat ∧ c.toNat ≤ 57
  · simp [d]
  · by_cases l : 97 ≤ c.toNat ∧ c.toNat ≤ 102
    · have u : ¬ (65 ≤ c.toNat ∧ c.toNat ≤ 70) := by omega
      simp [d, l, u]
    · by_cases u : 65 ≤ c.toNat ∧ c.toNat ≤ 70 <;> simp [d, l, u]

/-- the bytes denoted by an even number of hexadecimal digits -/
def bytesOfHex : Bytes → Bytes
  | a :: b :: rest => UInt8.ofNat (Spec.Tpm.hexVal a * 16 + Spec.Tpm.hexVal b) :: bytesOfHex rest
  | _ => []

/-- `hex.DecodeString` accepts exactly the even-length strings of hexadecimal digits -/
theorem hexDecode_eq : ∀ h : Bytes,
    Tpm.hexDecode h = if h.length % 2 = 0 ∧ h.all Spec.Tpm.isHex = true then some (bytesOfHex h) else none
  | [] => rfl
  | [_] => rfl
  | a :: b :: rest => by
    have hl : (a :: b :: rest).length % 2 = rest.length % 2 := Nat.add_mod_right _ 2
    rw [Tpm.hexDecode, hexDigit_eq, hexDigit_eq, hexDecode_eq rest, hl, List.all_cons, List.all_cons, bytesOfHex]
    cases Spec.Tpm.isHex a
    · simp
    · cases Spec.Tpm.isHex b
      · simp
      · rw [Bool.true_and, Bool.true_and]
        by_cases hc : rest.length % 2 = 0 ∧ rest.all Spec.Tpm.isHex = true
        · rw [if_pos hc, if_pos hc]; rfl
        · rw [if_neg hc, if_neg hc]; rfl

theorem bytesOfHex8_eq : ∀ h : Bytes, h.length = 8 → Spec.Tpm.bytesOfHex8 h = bytesOfHex h
  | [_, _, _, _, _, _, _, _], _ => rfl

theorem idPrefix_length : Tpm.idPrefix.length = 3 := by rw [idPrefix_eq]; rfl

/-- the function as a three-way condition -/
theorem unmarshalVendorId_eq (s : Bytes) :
    Tpm.unmarshalVendorId s =
      if s.length = 11 ∧ s.take 3 = Tpm.idPrefix ∧ (s.drop 3).all Spec.Tpm.isHex = true
      then some (Spec.Tpm.bytesOfHex8 (s.drop 3)) else none := by
  unfold Tpm.unmarshalVendorId
  by_cases hl : s.length = 11
  · by_cases hp : s.take 3 = Tpm.idPrefix
    · have h8 : (s.drop 3).length = 8 := by simp [hl]
      simp only [hl, hp, ne_eq, not_true_eq_false, if_false, true_and, hexDecode_eq, h8, bytesOfHex8_eq _ h8]
    · simp [hl, hp]
  · simp [hl]

/-- UnmarshalVendorID accepts exactly "id:" followed by eight hexadecimal digits and returns those four bytes -/
theorem vendorId_iff (s v : Bytes) :
    Tpm.unmarshalVendorId s = some v ↔
      ∃ h : Bytes, s = Tpm.idPrefix ++ h ∧ h.length = 8 ∧ h.all Spec.Tpm.isHex = true ∧ v = Spec.Tpm.bytesOfHex8 h := by
  rw [unmarshalVendorId_eq]
  constructor
  · intro h
    split at h
    · rename_i hc
      obtain ⟨hl, hp, hx⟩ := hc
      refine ⟨s.drop 3, ?_, by simp [hl], hx, ?_⟩
      · rw [← hp, List.take_append_drop]
      · exact (Option.some.inj h).symm
    · cases h
  · rintro ⟨h, rfl, hl, hx, rfl⟩
    have h3 := idPrefix_length
    have hd : (Tpm.idPrefix ++ h).drop 3 = h := by rw [← h3]; exact List.drop_left
    have ht : (Tpm.idPrefix ++ h).take 3 = Tpm.idPrefix := by rw [← h3]; exact List.take_left
    rw [hd, ht, if_pos]
    exact ⟨by simp [h3, hl], rfl, hx⟩

theorem vendorId_length (s v : Bytes) (h : Tpm.unmarshalVendorId s = some v) : v.length = 4 := by
  obtain ⟨_, _, _, _, rfl⟩ := (vendorId_iff s v).1 h
  rfl

/-- wrong length, missing prefix, or a non-hex digit ⇒ rejected -/
theorem vendorId_rejects_length (s : Bytes) (h : s.length ≠ 11) : Tpm.unmarshalVendorId s = none := by
  rw [unmarshalVendorId_eq, if_neg]; exact fun hc => h hc.1

theorem vendorId_rejects_prefix (s : Bytes) (h : s.take 3 ≠ Tpm.idPrefix) : Tpm.unmarshalVendorId s = none := by
  rw [unmarshalVendorId_eq, if_neg]; exact fun hc => h hc.2.1

theorem vendorId_rejects_nonhex (s : Bytes) (c : UInt8) (hc : c ∈ s.drop 3) (hx : Spec.Tpm.isHex c = false) :
    Tpm.unmarshalVendorId s = none := by
  rw [unmarshalVendorId_eq, if_neg]
  intro h
  have := List.all_eq_true.1 h.2.2 c hc
  rw [hx] at this; cases this


/-! ### the vendor table and the constants -/

/-- the regenerated vendor table is the reviewed one -/
theorem vendors_pinned : Generated.Tpm.vendors = Spec.Tpm.vendorsReviewed := rfl

/-- every id the table accepts is in the TCG registry (or the documented pseudo vendor) -/
theorem vendors_sound : ∀ v ∈ Generated.Tpm.vendors,
    v.1 ∈ Spec.Tpm.tcgRegistry ∨ v.1 = Spec.Tpm.fidoConformancePseudoVendor := by decide +kernel

theorem tpm_constants : Generated.Tpm.generatedValue = 0xFF544347 ∧ Generated.Tpm.tagAttestCertify = 0x8017
    ∧ Generated.Tpm.sanTagDirectoryName = 4 ∧ Generated.Tpm.oidSAN = [2, 5, 29, 17]
    ∧ Generated.Tpm.oidTPMManufacturer = Spec.Tpm.oidManufacturer ∧ Generated.Tpm.oidTPMPartNumber = Spec.Tpm.oidModel
    ∧ Generated.Tpm.oidTPMFirmwareVersion = Spec.Tpm.oidVersion := by decide

theorem vendorName_zero : Tpm.vendorName [0, 0, 0, 0] = none := by decide

/-! ### hardware details from the RDN sequence -/

/-- the vendor an attribute value denotes, if it parses and is registered -/
def vendorOf (m : Bytes) : Option (Bytes × String) :=
  match Tpm.unmarshalVendorId m with
  | none => none
  | some id =>
    match Tpm.vendorName id with
    | none => none
    | some n => some (id, n)

theorem vendorOf_eq_some (m id : Bytes) (n : String) :
    vendorOf m = some (id, n) ↔ Tpm.unmarshalVendorId m = some id ∧ Tpm.vendorName id = some n := by
  unfold vendorOf
  cases Tpm.unmarshalVendorId m with
  | none => simp
  | some id' => cases h : Tpm.vendorName id' <;> grind

/-- what the manufacturer attributes must satisfy for the loop not to fail -/
def MfrOK (attrs : List Tpm.Attr) : Prop :=
  ∀ a ∈ attrs, a.isString = true → a.oid = Spec.Tpm.oidManufacturer →
    ∃ id n, Tpm.unmarshalVendorId a.value = some id ∧ Tpm.vendorName id = some n


theorem mfrOK_cons (a : Tpm.Attr) (rest : List Tpm.Attr) : MfrOK (a :: rest) ↔ MfrOK [a] ∧ MfrOK rest := by
  unfold MfrOK; rw [List.forall_mem_cons, List.forall_mem_singleton]

theorem lastValue_singleton (oid : List Nat) (a : Tpm.Attr) :
    Spec.Tpm.lastValue oid [a] = if a.isString = true ∧ a.oid = oid then some a.value else none := rfl

theorem lastValue_cons (oid : List Nat) (a : Tpm.Attr) (rest : List Tpm.Attr) :
    Spec.Tpm.lastValue oid (a :: rest) = (Spec.Tpm.lastValue oid rest).or (Spec.Tpm.lastValue oid [a]) := by
  simp only [Spec.Tpm.lastValue]
  cases Spec.Tpm.lastValue oid rest <;> rfl

/-- the accumulator after the loop, as a function of the last attributes -/
def result (acc : Tpm.Acc) (attrs : List Tpm.Attr) : Tpm.Acc where
  vendor := match Spec.Tpm.lastValue Spec.Tpm.oidManufacturer attrs with
    | none => acc.vendor
    | some m => vendorOf m
  part := (Spec.Tpm.lastValue Spec.Tpm.oidModel attrs).getD acc.part
  fw := (Spec.Tpm.lastValue Spec.Tpm.oidVersion attrs).getD acc.fw

/-- the last assignments of `a :: rest` are those of `rest`, over those of `a` -/
theorem result_cons (acc : Tpm.Acc) (a : Tpm.Attr) (rest : List Tpm.Attr) :
    result acc (a :: rest) = result (result acc [a]) rest := by
  unfold result
  simp only [lastValue_cons _ a rest, Option.getD_or]
  cases Spec.Tpm.lastValue Spec.Tpm.oidManufacturer rest <;> rfl

theorem oids_distinct : Spec.Tpm.oidManufacturer ≠ Spec.Tpm.oidModel ∧ Spec.Tpm.oidManufacturer ≠ Spec.Tpm.oidVersion
    ∧ Spec.Tpm.oidModel ≠ Spec.Tpm.oidVersion := by decide

/-- one iteration fails only on an unacceptable manufacturer attribute, and otherwise makes the assignment of `a` -/
theorem stepAttr_iff (acc acc' : Tpm.Acc) (a : Tpm.Attr) :
    Tpm.stepAttr acc a = some acc' ↔ MfrOK [a] ∧ acc' = result acc [a] := by
  obtain ⟨d12, d13, d23⟩ := oids_distinct
  unfold Tpm.stepAttr MfrOK result
  show (if _ then _ else if a.oid = Spec.Tpm.oidManufacturer then _ else if a.oid = Spec.Tpm.oidModel then _
    else if a.oid = Spec.Tpm.oidVersion then _ else _) = _ ↔ _
  simp only [List.forall_mem_singleton, lastValue_singleton, @eq_comm _ acc']
  by_cases hs : a.isString = true
  · by_cases h1 : a.oid = Spec.Tpm.oidManufacturer
    · cases hu : Tpm.unmarshalVendorId a.value with
      | none => simp [hs, h1]
      | some id => cases hn : Tpm.vendorName id <;> simp [hs, h1, hu, hn, d12, d13, vendorOf]
    · by_cases h2 : a.oid = Spec.Tpm.oidModel
      · simp [hs, h2, d12.symm, d23]
      · by_cases h3 : a.oid = Spec.Tpm.oidVersion
        · simp [hs, h3, d13.symm, d23.symm]
        · simp [hs, h1, h2, h3]
  · simp [hs]

/-- the loop succeeds iff every string-valued manufacturer attribute is acceptable; it keeps the last assignments -/
theorem foldAttrs_iff (attrs : List Tpm.Attr) (acc acc' : Tpm.Acc) :
    Tpm.foldAttrs acc attrs = some acc' ↔ MfrOK attrs ∧ acc' = result acc attrs := by
  induction attrs generalizing acc with
  | nil => exact ⟨fun h => ⟨nofun, (Option.some.inj h).symm⟩, fun h => congrArg some h.2.symm⟩
  | cons a rest ih =>
    have : Tpm.foldAttrs acc (a :: rest) = some acc' ↔
        ∃ acc₁, Tpm.stepAttr acc a = some acc₁ ∧ Tpm.foldAttrs acc₁ rest = some acc' := by
      rw [Tpm.foldAttrs]; cases Tpm.stepAttr acc a <;> simp
    rw [this, mfrOK_cons, result_cons]
    constructor
    · rintro ⟨acc₁, h1, h2⟩
      obtain ⟨ha, rfl⟩ := (stepAttr_iff _ _ _).1 h1
      obtain ⟨hr, rfl⟩ := (ih _).1 h2
      exact ⟨⟨ha, hr⟩, rfl⟩
    · rintro ⟨⟨ha, hr⟩, rfl⟩
      exact ⟨_, (stepAttr_iff _ _ _).2 ⟨ha, rfl⟩, (ih _).2 ⟨hr, rfl⟩⟩


theorem getD_nil_ne {o : Option Bytes} (h : o.getD [] ≠ []) : o = some (o.getD []) := by
  cases o with
  | none => exact absurd rfl h
  | some _ => rfl

/-- hardware details are extracted exactly when every string-valued manufacturer attribute parses and names a registered vendor,
    and the LAST manufacturer / model / version attributes exist with non-empty model and version; the values returned are those attributes -/
theorem hardwareDetails_iff (attrs : List Tpm.Attr) (d : Tpm.Details) :
    Tpm.detailsFromAttrs attrs = some d ↔
      (∀ a ∈ attrs, a.isString = true → a.oid = Spec.Tpm.oidManufacturer →
          ∃ id n, Tpm.unmarshalVendorId a.value = some id ∧ Tpm.vendorName id = some n) ∧
      (∃ m, Spec.Tpm.lastValue Spec.Tpm.oidManufacturer attrs = some m ∧ Tpm.unmarshalVendorId m = some d.vendorId ∧
            Tpm.vendorName d.vendorId = some d.vendorName) ∧
      Spec.Tpm.lastValue Spec.Tpm.oidModel attrs = some d.partNumber ∧ d.partNumber ≠ [] ∧
      Spec.Tpm.lastValue Spec.Tpm.oidVersion attrs = some d.firmwareVersion ∧ d.firmwareVersion ≠ [] := by
  show _ ↔ MfrOK attrs ∧ _
  constructor
  · fun_cases Tpm.detailsFromAttrs attrs <;> intro h <;> cases h
    rename_i acc hf id n hv hz hp hw
    obtain ⟨hok, rfl⟩ := (foldAttrs_iff attrs {} acc).1 hf
    simp only [result] at hv hp hw ⊢
    cases hm : Spec.Tpm.lastValue Spec.Tpm.oidManufacturer attrs with
    | none => rw [hm] at hv; cases hv
    | some m =>
      rw [hm] at hv
      exact ⟨hok, ⟨m, rfl, (vendorOf_eq_some m id n).1 hv⟩, getD_nil_ne hp, hp, getD_nil_ne hw, hw⟩
  · rintro ⟨hok, ⟨m, hm, hu, hn⟩, hp, hpne, hw, hwne⟩
    have hz : d.vendorId ≠ [0, 0, 0, 0] := by
      intro hz; rw [hz, vendorName_zero] at hn; cases hn
    unfold Tpm.detailsFromAttrs
    rw [(foldAttrs_iff attrs {} _).2 ⟨hok, rfl⟩]
    simp only [result, hm, (vendorOf_eq_some m _ _).2 ⟨hu, hn⟩, hp, hw, Option.getD_some, if_neg hz, if_neg hpne, if_neg hwne]


/-! ### hardware details from the SAN extensions -/

theorem scanNames_skip (pre rest : List Tpm.GeneralName)
    (hpre : ∀ g ∈ pre, ¬ (g.cls = Tpm.classContextSpecific ∧ g.tag = 4)) :
    Tpm.scanNames (pre ++ rest) = Tpm.scanNames rest := by
  induction pre with
  | nil => rfl
  | cons g pre ih =>
    rw [List.cons_append, Tpm.scanNames]
    exact (if_neg (hpre g List.mem_cons_self)).trans (ih fun g' hg' => hpre g' (List.mem_cons_of_mem _ hg'))

theorem scanNames_first (pre : List Tpm.GeneralName) (n : Tpm.GeneralName) (post : List Tpm.GeneralName)
    (hpre : ∀ g ∈ pre, ¬ (g.cls = Tpm.classContextSpecific ∧ g.tag = 4)) (hn : n.cls = Tpm.classContextSpecific ∧ n.tag = 4) :
    Tpm.scanNames (pre ++ n :: post) =
      some (match n.rdn with | none => none | some attrs => Tpm.detailsFromAttrs attrs) := by
  rw [scanNames_skip _ _ hpre, Tpm.scanNames]
  refine (if_pos hn).trans ?_
  cases n.rdn <;> rfl

/-- only the FIRST context-specific [4] (directoryName) entry of the first SAN extension that has one is used; other entries before/after are ignored -/
theorem san_first_directoryName (pre : List Tpm.GeneralName) (n : Tpm.GeneralName) (post : List Tpm.GeneralName) (rest : List Tpm.SanExt)
    (hpre : ∀ g ∈ pre, ¬ (g.cls = Tpm.classContextSpecific ∧ g.tag = 4)) (hn : n.cls = Tpm.classContextSpecific ∧ n.tag = 4) :
    Tpm.detailsFromSan (.names (pre ++ n :: post) :: rest) =
      (match n.rdn with | none => none | some attrs => Tpm.detailsFromAttrs attrs) := by
  rw [Tpm.detailsFromSan, scanNames_first pre n post hpre hn]

theorem san_missing : Tpm.detailsFromSan [] = none := rfl

/-- an extension without any directoryName is skipped; an unparsable extension is an error -/
theorem san_skip (ns : List Tpm.GeneralName) (rest : List Tpm.SanExt)
    (h : ∀ g ∈ ns, ¬ (g.cls = Tpm.classContextSpecific ∧ g.tag = 4)) :
    Tpm.detailsFromSan (.names ns :: rest) = Tpm.detailsFromSan rest := by
  have hs := scanNames_skip ns [] h
  rw [List.append_nil] at hs
  rw [Tpm.detailsFromSan, hs]; rfl

/-- a non-context-specific entry with tag number 4 (e.g. a universal OCTET STRING) is NOT a directoryName -/
theorem san_class_matters (g : Tpm.GeneralName) (h : g.cls ≠ Tpm.classContextSpecific) (rest : List Tpm.SanExt) :
    Tpm.detailsFromSan (.names [g] :: rest) = Tpm.detailsFromSan rest :=
  san_skip [g] rest fun _ hg hc => by cases List.mem_singleton.1 hg; exact h hc.1

theorem san_bad (rest : List Tpm.SanExt) : Tpm.detailsFromSan (.bad :: rest) = none := rfl


/-! ### Keymaster schema -/

/-- Keymaster schema: the regenerated struct tags are pinned -/
theorem authList_pinned : Generated.Android.authorizationListFields.map (fun f => (f.1, f.2.2)) = [
      ("Purpose", "tag:1,explicit,set,optional"),
      ("Algorithm", "tag:2,explicit,optional"),
      ("KeySize", "tag:3,explicit,optional"),
      ("Digest", "tag:5,explicit,set,optional"),
      ("Padding", "tag:6,explicit,set,optional"),
      ("ECCurve", "tag:10,explicit,optional"),
      ("RSAPublicExponent", "tag:200,explicit,optional"),
      ("RollbackResistance", "tag:303,explicit,optional"),
      ("ActiveDateTime", "tag:400,explicit,optional"),
      ("OriginationExpireDateTime", "tag:401,explicit,optional"),
      ("UsageExpireDateTime", "tag:402,explicit,optional"),
      ("NoAuthRequired", "tag:503,explicit,optional"),
      ("UserAuthType", "tag:504,explicit,optional"),
      ("AuthTimeout", "tag:505,explicit,optional"),
      ("AllowWhileOnBody", "tag:506,explicit,optional"),
      ("TrustedUserPresenceRequired", "tag:507,explicit,optional"),
      ("TrustedConfirmationRequired", "tag:508,explicit,optional"),
      ("UnlockedDeviceRequired", "tag:509,explicit,optional"),
      ("AllApplications", "tag:600,explicit,optional"),
      ("ApplicationID", "tag:601,explicit,optional"),
      ("CreationDateTime", "tag:701,explicit,optional"),
      ("Origin", "tag:702,explicit,optional"),
      ("RootOfTrust", "tag:704,explicit,optional"),
      ("OSVersion", "tag:705,explicit,optional"),
      ("OSPatchLevel", "tag:706,explicit,optional"),
      ("AttestationApplicationID", "tag:709,explicit,optional"),
      ("AttestationIDBrand", "tag:710,explicit,optional"),
      ("AttestationIDDevice", "tag:711,explicit,optional"),
      ("AttestationIDProduct", "tag:712,explicit,optional"),
      ("AttestationIDSerial", "tag:713,explicit,optional"),
      ("AttestationIDIMEID", "tag:714,explicit,optional"),
      ("AttestationIDMEID", "tag:715,explicit,optional"),
      ("AttestationIDManufacturer", "tag:716,explicit,optional"),
      ("AttestationIDModel", "tag:717,explicit,optional"),
      ("VendorPatchLevel", "tag:718,explicit,optional"),
      ("BootPatchLevel", "tag:719,explicit,optional")] := rfl

/-
  `Spec.Tpm.tagOf` goes through `String.splitOn` and `String.Slice.toNat?`, which the kernel cannot evaluate
  (well-founded recursion over string positions / iterator loops; `decide`, `decide +kernel`, `rfl` and `simp` all get stuck,
  and core has no lemmas about `String.splitOn`).  `tagNum` below is the same function written by structural recursion over the
  characters; the two are compared on every regenerated struct tag by the `#guard` after the definition (a build-time
  evaluation, not a theorem), and the theorems are stated for `tagNum`.
-/

/-- split at commas -/
def splitComma : List Char → List (List Char)
  | [] => [[]]
  | c :: cs =>
    if c = ',' then [] :: splitComma cs
    else match splitComma cs with
      | [] => [[c]]
      | p :: ps => (c :: p) :: ps

/-- decimal value of a non-empty list of digits -/
def natOfDigits (cs : List Char) : Option Nat :=
  if cs = [] then none
  else cs.foldl (fun acc c => acc.bind fun n => if c.isDigit then some (n * 10 + (c.toNat - 48)) else none) (some 0)

/-- the tag number in an `asn1:"tag:N,…"` struct tag (kernel-evaluable counterpart of `Spec.Tpm.tagOf`) -/
def tagNum (asn1Tag : String) : Option Nat :=
  match (splitComma asn1Tag.toList).find? (fun p => p.take 4 == ['t', 'a', 'g', ':']) with
  | some p => natOfDigits (p.drop 4)
  | none => none

#guard Generated.Android.authorizationListFields.all fun f => tagNum f.2.2 == Spec.Tpm.tagOf f.2.2
#guard (Generated.Android.keyDescriptionFields ++ Generated.Android.rootOfTrustFields).all
  fun f => tagNum f.2.2 == Spec.Tpm.tagOf f.2.2

/-- `tagNum` on the characters of the struct tag -/
def tagNumChars (cs : List Char) : Option Nat :=
  match (splitComma cs).find? (fun p => p.take 4 == ['t', 'a', 'g', ':']) with
  | some p => natOfDigits (p.drop 4)
  | none => none

theorem tagNum_ofList (cs : List Char) : tagNum (String.ofList cs) = tagNumChars cs := by
  rw [tagNum, String.toList_ofList]; rfl

/-- the context tag numbers of the regenerated struct tags, in order -/
theorem authList_tag_numbers : Generated.Android.authorizationListFields.map (fun f => tagNum f.2.2) =
    [1, 2, 3, 5, 6, 10, 200, 303, 400, 401, 402, 503, 504, 505, 506, 507, 508, 509, 600, 601, 701, 702, 704, 705, 706,
      709, 710, 711, 712, 713, 714, 715, 716, 717, 718, 719].map some := by
  simp only [Generated.Android.authorizationListFields, List.map_cons, List.map_nil]
  -- a string literal is `String.ofList` of its characters: rewriting with `tagNum_ofList` row by row spares the kernel
  -- the UTF-8 decoding that evaluating `String.toList` goes through (four fifths of the cost of evaluating `tagNum`)
  repeat rw [tagNum_ofList]
  decide +kernel

/-- every context tag number occurs in the published schema -/
theorem authList_tags_published : ∀ f ∈ Generated.Android.authorizationListFields,
    ∃ t, tagNum f.2.2 = some t ∧ t ∈ Spec.Tpm.keymasterSchema.map (fun e => e.2.1) := by
  intro f hf
  have h := List.mem_map_of_mem (f := fun f => tagNum f.2.2) hf
  rw [authList_tag_numbers, List.mem_map] at h
  obtain ⟨t, ht, e⟩ := h
  refine ⟨t, e.symm, ?_⟩
  clear e
  revert t
  decide +kernel


/-- the three tags the android-key verifier relies on are purpose 1, allApplications 600, origin 702 -/
theorem verifier_tags :
    (Generated.Android.authorizationListFields.find? (fun f => f.1 == "Purpose")).map (fun f => tagNum f.2.2) = some (some 1)
    ∧ (Generated.Android.authorizationListFields.find? (fun f => f.1 == "AllApplications")).map (fun f => tagNum f.2.2)
        = some (some 600)
    ∧ (Generated.Android.authorizationListFields.find? (fun f => f.1 == "Origin")).map (fun f => tagNum f.2.2) = some (some 702)
    ∧ Generated.Android.keyOriginGenerated = 0 ∧ Generated.Android.keyMasterPurposeSign = 2 := by
  decide +kernel

theorem keyDescription_pinned :
    Generated.Android.keyDescriptionFields = [
      ("AttestationVersion", "int", ""),
      ("AttestationSecurityLevel", "Enumerated", ""),
      ("KeyMasterVersion", "int", ""),
      ("KeyMasterSecurityLevel", "Enumerated", ""),
      ("AttestationChallenge", "[]byte", ""),
      ("UniqueID", "[]byte", ""),
      ("SoftwareEnforced", "AuthorizationList", ""),
      ("TeeEnforced", "AuthorizationList", "")]
    ∧ Generated.Android.rootOfTrustFields = [
      ("VerifiedBootKey", "[]byte", ""),
      ("DeviceLocked", "bool", ""),
      ("VerifiedBootState", "Enumerated", ""),
      ("VerifiedBootHash", "[]byte", "")] := ⟨rfl, rfl⟩

end WebAuthn.C17
