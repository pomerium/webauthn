import WebAuthnModel.Model.Cose
import WebAuthnModel.Spec.Cose
import WebAuthnModel.Proofs.CborFrame
import WebAuthnModel.Proofs.CoseEncode
/-
  C11 — COSE public keys are parsed, classified and re-encoded faithfully.
-/
namespace WebAuthn.C11
open WebAuthn Cose Cbor

/-! #### the regenerated classification facts are the standard's -/

/-- (the OKP parser's conditions: the four reviewed ones are there, in this order; a further condition — say a redundant emptiness test in
    front of the length test — does not break the fact, and whether it changes what is accepted is for the correspondence streams to say) -/
theorem classification_tables :
    Generated.Cose.keyDispatch = [(2, "UnmarshalECDSAPublicKey"), (1, "UnmarshalEdDSAPublicKey"), (3, "UnmarshalRSAPublicKey")]
    ∧ Generated.Cose.ec2KeyTypes = [2] ∧ Generated.Cose.rsaKeyTypes = [3]
    ∧ Generated.Cose.ec2Curves = [(1, "P256"), (2, "P384"), (3, "P521")]
    ∧ Generated.Cose.ellipticCurveTable = [(1, "P256"), (2, "P384"), (3, "P521")]
    ∧ Generated.Cose.okpAlgs = [-8] ∧ Generated.Cose.okpCurves = [6]
    ∧ ["err != nil", "obj.Algorithm == 0", "obj.Type != 1", "len(obj.XCoordinate) != 32"].isSublist Generated.Cose.okpConds = true
    ∧ Generated.Cose.curveConsts = [("CurveP256", 1), ("CurveP384", 2), ("CurveP521", 3), ("CurveX25519", 4),
        ("CurveX448", 5), ("CurveEd25519", 6), ("CurveEd448", 7), ("CurveSECP256K1", 8)]
    ∧ Generated.Cose.keyTypeConsts = [("KeyTypeOctet", 1), ("KeyTypeElliptic", 2), ("KeyTypeRSA", 3)] := by
  decide +kernel

/-- the CBOR member schema of the four key structures (labels and Go kinds) is the one the model decodes with -/
theorem struct_schemas :
    Generated.Cose.publicKeyStructureFields.map (fun f => (f.2.1, f.2.2)) =
      [("KeyType", "cbor:\"1,keyasint,omitempty\" json:\"kty\""), ("Algorithm", "cbor:\"3,keyasint,omitempty\" json:\"alg\"")]
    ∧ Generated.Cose.publicKeyStructureEC2Fields.map (fun f => (f.2.1, f.2.2)) =
      [("KeyType", "cbor:\"1,keyasint,omitempty\" json:\"kty\""), ("Algorithm", "cbor:\"3,keyasint,omitempty\" json:\"alg\""),
       ("Curve", "cbor:\"-1,keyasint,omitempty\" json:\"crv\""), ("[]byte", "cbor:\"-2,keyasint,omitempty\" json:\"x\""),
       ("[]byte", "cbor:\"-3,keyasint,omitempty\" json:\"y\"")]
    ∧ Generated.Cose.publicKeyStructureOKPFields.map (fun f => (f.2.1, f.2.2)) =
      [("KeyType", "cbor:\"1,keyasint,omitempty\" json:\"kty\""), ("Algorithm", "cbor:\"3,keyasint,omitempty\" json:\"alg\""),
       ("Curve", "cbor:\"-1,keyasint,omitempty\" json:\"crv\""), ("[]byte", "cbor:\"-2,keyasint,omitempty\" json:\"x\"")]
    ∧ Generated.Cose.publicKeyStructureRSAFields.map (fun f => (f.2.1, f.2.2)) =
      [("KeyType", "cbor:\"1,keyasint,omitempty\" json:\"kty\""), ("Algorithm", "cbor:\"3,keyasint,omitempty\" json:\"alg\""),
       ("[]byte", "cbor:\"-1,keyasint,omitempty\" json:\"n\""), ("[]byte", "cbor:\"-2,keyasint,omitempty\" json:\"e\"")] := by
  decide +kernel

/-! #### the parsers accept exactly the supported keys -/

def toClass : Key → Spec.Cose.KeyClass
  | .ec2 a c x y => .ec2 a c x y
  | .okp x => .okp x
  | .rsa a n e => .rsa a n e

theorem toClass_ec2 (k : Key) (a c : Int) (x y : Bytes) : .ec2 a c x y = toClass k ↔ k = .ec2 a c x y := by
  cases k <;> simp [toClass, eq_comm]
theorem toClass_okp (k : Key) (x : Bytes) : .okp x = toClass k ↔ k = .okp x := by
  cases k <;> simp [toClass, eq_comm]
theorem toClass_rsa (k : Key) (a : Int) (n e : Bytes) : .rsa a n e = toClass k ↔ k = .rsa a n e := by
  cases k <;> simp [toClass, eq_comm]

theorem lookup_isSome {β : Type} (tbl : List (Int × β)) (k : Int) :
    (lookup tbl k).isSome = true ↔ k ∈ tbl.map (·.1) := by
  unfold lookup
  simp [List.find?_isSome]

theorem lookup_isNone {β : Type} (tbl : List (Int × β)) (k : Int) :
    (lookup tbl k).isNone = true ↔ k ∉ tbl.map (·.1) := by
  rw [← lookup_isSome]
  cases lookup tbl k <;> simp

/-- the shape the three type-specific parsers share: decode one item, decode it into the struct, check the members -/
def parseWith (schema : List (Int × FieldKind)) (body : List (Int × FieldVal) → Bytes → ParseRes) (raw : Bytes) : ParseRes :=
  match decode raw with
  | none => .err .invalidKey
  | some (v, rest) =>
    match decodeStruct schema v with
    | .unmodelled => .unmodelled
    | .err => .err .invalidKey
    | .ok vals => body vals rest

theorem parseWith_ok_iff {schema : List (Int × FieldKind)} {body : List (Int × FieldVal) → Bytes → ParseRes} {raw : Bytes}
    {k : Key} {rest : Bytes} {Q : List (Int × FieldVal) → Prop}
    (hbody : ∀ vals r', body vals r' = .ok k rest ↔ r' = rest ∧ Q vals) :
    parseWith schema body raw = .ok k rest ↔
      ∃ v vals, decode raw = some (v, rest) ∧ decodeStruct schema v = .ok vals ∧ Q vals := by
  unfold parseWith
  constructor
  · intro h
    split at h
    · cases h
    rename_i v r' hd
    split at h
    · cases h
    · cases h
    rename_i vals hs
    obtain ⟨rfl, hq⟩ := (hbody _ _).1 h
    exact ⟨v, vals, hd, hs, hq⟩
  · rintro ⟨v, vals, hd, hs, hq⟩
    simp only [hd, hs]
    exact (hbody _ _).2 ⟨rfl, hq⟩

theorem ite_err_eq_ok {c : Prop} [Decidable c] {e : CoseErr} {x : ParseRes} {k : Key} {rest : Bytes} :
    (if c then ParseRes.err e else x) = .ok k rest ↔ ¬c ∧ x = .ok k rest := by
  split <;> simp [*]

theorem ec2KeyTypes_contains (i : Int) : Generated.Cose.ec2KeyTypes.contains i = true ↔ i = 2 := by
  simp [Generated.Cose.ec2KeyTypes]
theorem rsaKeyTypes_contains (i : Int) : Generated.Cose.rsaKeyTypes.contains i = true ↔ i = 3 := by
  simp [Generated.Cose.rsaKeyTypes]
theorem okpAlgs_contains (i : Int) : Generated.Cose.okpAlgs.contains i = true ↔ i = -8 := by
  simp [Generated.Cose.okpAlgs]
theorem okpCurves_contains (i : Int) : Generated.Cose.okpCurves.contains i = true ↔ i = 6 := by
  simp [Generated.Cose.okpCurves]
theorem ec2Curves_isNone (c : Int) :
    (lookup Generated.Cose.ec2Curves c).isNone = true ↔ ¬ (c = 1 ∨ c = 2 ∨ c = 3) := by
  rw [lookup_isNone]; simp [Generated.Cose.ec2Curves]
theorem ecdsaVerifyTable_isNone (a : Int) :
    (lookup Generated.Cose.ecdsaVerifyTable a).isNone = true ↔ ¬ (a = -7 ∨ a = -35 ∨ a = -36) := by
  rw [lookup_isNone]; simp [Generated.Cose.ecdsaVerifyTable]; omega
theorem rsaVerifyTable_isNone (a : Int) :
    (lookup Generated.Cose.rsaVerifyTable a).isNone = true ↔
      ¬ (a = -65535 ∨ a = -257 ∨ a = -258 ∨ a = -259 ∨ a = -37 ∨ a = -38 ∨ a = -39) := by
  rw [lookup_isNone]; simp [Generated.Cose.rsaVerifyTable]; omega

theorem ec2_body_iff (vals : List (Int × FieldVal)) (r' rest : Bytes) (k : Key) :
    (if !(Generated.Cose.ec2KeyTypes.contains (getInt vals 1)) then ParseRes.err .unsupportedKeyType
      else if (lookup Generated.Cose.ec2Curves (getInt vals (-1))).isNone then .err .unsupportedCurve
      else if (lookup Generated.Cose.ecdsaVerifyTable (getInt vals 3)).isNone then .err .unsupportedAlgorithm
      else .ok (.ec2 (getInt vals 3) (getInt vals (-1)) (getBytes vals (-2)) (getBytes vals (-3))) r') = .ok k rest ↔
    r' = rest ∧ getInt vals 1 = 2 ∧
        Spec.Cose.classify 2 (getInt vals 3) (getInt vals (-1)) [] (getBytes vals (-2)) (getBytes vals (-3)) = some (toClass k) := by
  simp only [ite_err_eq_ok, Bool.not_eq_true', Bool.not_eq_false, ec2KeyTypes_contains, ec2Curves_isNone,
    ecdsaVerifyTable_isNone, Decidable.not_not, ParseRes.ok.injEq, Spec.Cose.classify, eq_self, if_true,
    Option.ite_some_none_eq_some, toClass_ec2]
  constructor
  · rintro ⟨h1, h2, h3, rfl, rfl⟩; exact ⟨rfl, h1, ⟨h2, h3⟩, rfl⟩
  · rintro ⟨rfl, h1, ⟨h2, h3⟩, rfl⟩; exact ⟨h1, h2, h3, rfl, rfl⟩

/-- EC2 parser: accepts exactly when the members classify as a supported EC2 key, and the key returned carries exactly the encoded members -/
theorem parseEC2_iff (raw : Bytes) (k : Key) (rest : Bytes) :
    parseEC2 raw = .ok k rest ↔
      ∃ v vals, decode raw = some (v, rest) ∧ decodeStruct ec2Schema v = .ok vals ∧ getInt vals 1 = 2 ∧
        Spec.Cose.classify 2 (getInt vals 3) (getInt vals (-1)) [] (getBytes vals (-2)) (getBytes vals (-3)) = some (toClass k) :=
  parseWith_ok_iff (fun vals r' => ec2_body_iff vals r' rest k)

theorem okp_body_iff (vals : List (Int × FieldVal)) (r' rest : Bytes) (k : Key) :
    (let alg := if getInt vals 3 = 0 then -8 else getInt vals 3
      if getInt vals 1 ≠ 1 then ParseRes.err .invalidKey
      else if !(Generated.Cose.okpAlgs.contains alg) then .err .unsupportedAlgorithm
      else if !(Generated.Cose.okpCurves.contains (getInt vals (-1))) then .err .unsupportedCurve
      else if (getBytes vals (-2)).length ≠ 32 then .err .invalidKey
      else .ok (.okp (getBytes vals (-2))) r') = .ok k rest ↔
    r' = rest ∧ getInt vals 1 = 1 ∧
        Spec.Cose.classify 1 (getInt vals 3) (getInt vals (-1)) [] (getBytes vals (-2)) [] = some (toClass k) := by
  have ha : (if getInt vals 3 = 0 then (-8 : Int) else getInt vals 3) = -8 ↔ (getInt vals 3 = -8 ∨ getInt vals 3 = 0) := by
    split <;> omega
  simp only [ite_err_eq_ok, ne_eq, Bool.not_eq_true', Bool.not_eq_false, okpAlgs_contains, okpCurves_contains, ha,
    Decidable.not_not, ParseRes.ok.injEq, Spec.Cose.classify, Int.reduceEq, eq_self, if_true, if_false,
    Option.ite_some_none_eq_some, toClass_okp]
  constructor
  · rintro ⟨h1, h2, h3, h4, rfl, rfl⟩; exact ⟨rfl, h1, ⟨h2, h3, h4⟩, rfl⟩
  · rintro ⟨rfl, h1, ⟨h2, h3, h4⟩, rfl⟩; exact ⟨h1, h2, h3, h4, rfl, rfl⟩

theorem parseOKP_iff (raw : Bytes) (k : Key) (rest : Bytes) :
    parseOKP raw = .ok k rest ↔
      ∃ v vals, decode raw = some (v, rest) ∧ decodeStruct okpSchema v = .ok vals ∧ getInt vals 1 = 1 ∧
        Spec.Cose.classify 1 (getInt vals 3) (getInt vals (-1)) [] (getBytes vals (-2)) [] = some (toClass k) :=
  parseWith_ok_iff (fun vals r' => okp_body_iff vals r' rest k)

theorem rsa_body_iff (vals : List (Int × FieldVal)) (r' rest : Bytes) (k : Key) :
    (if !(Generated.Cose.rsaKeyTypes.contains (getInt vals 1)) then ParseRes.err .unsupportedKeyType
      else if !exponentFits (getBytes vals (-2)) then .err .invalidKey
      else if (lookup Generated.Cose.rsaVerifyTable (getInt vals 3)).isNone then .err .unsupportedAlgorithm
      else .ok (.rsa (getInt vals 3) (getBytes vals (-1)) (getBytes vals (-2))) r') = .ok k rest ↔
    r' = rest ∧ getInt vals 1 = 3 ∧
        Spec.Cose.classify 3 (getInt vals 3) 0 (getBytes vals (-1)) (getBytes vals (-2)) [] = some (toClass k) := by
  have he : exponentFits (getBytes vals (-2)) = true ↔ Bytes.beNat (getBytes vals (-2)) < 2 ^ 63 := by
    simp [exponentFits]
  simp only [ite_err_eq_ok, Bool.not_eq_true', Bool.not_eq_false, rsaKeyTypes_contains, rsaVerifyTable_isNone, he,
    Decidable.not_not, ParseRes.ok.injEq, Spec.Cose.classify, Int.reduceEq, eq_self, if_true, if_false,
    Option.ite_some_none_eq_some, toClass_rsa]
  constructor
  · rintro ⟨h1, h2, h3, rfl, rfl⟩; exact ⟨rfl, h1, ⟨h3, h2⟩, rfl⟩
  · rintro ⟨rfl, h1, ⟨h3, h2⟩, rfl⟩; exact ⟨h1, h2, h3, rfl, rfl⟩

theorem parseRSA_iff (raw : Bytes) (k : Key) (rest : Bytes) :
    parseRSA raw = .ok k rest ↔
      ∃ v vals, decode raw = some (v, rest) ∧ decodeStruct rsaSchema v = .ok vals ∧ getInt vals 1 = 3 ∧
        Spec.Cose.classify 3 (getInt vals 3) 0 (getBytes vals (-1)) (getBytes vals (-2)) [] = some (toClass k) :=
  parseWith_ok_iff (fun vals r' => rsa_body_iff vals r' rest k)

/-- what the dispatching parser accepts is a supported key, with nothing after it -/
def Supported : Key → Prop
  | .ec2 alg crv _ _ => (crv = 1 ∨ crv = 2 ∨ crv = 3) ∧ (alg = -7 ∨ alg = -35 ∨ alg = -36)
  | .okp x => x.length = 32
  | .rsa alg _ e => (alg = -65535 ∨ alg = -257 ∨ alg = -258 ∨ alg = -259 ∨ alg = -37 ∨ alg = -38 ∨ alg = -39) ∧ Bytes.beNat e < 2 ^ 63

theorem supported_of_classify (kty alg crv : Int) (m1 m2 m3 : Bytes) (k : Key)
    (h : Spec.Cose.classify kty alg crv m1 m2 m3 = some (toClass k)) : Supported k := by
  unfold Spec.Cose.classify at h
  by_cases k2 : kty = 2
  · rw [if_pos k2, Option.ite_some_none_eq_some, toClass_ec2] at h
    obtain ⟨hc, rfl⟩ := h
    exact hc
  by_cases k1 : kty = 1
  · rw [if_neg k2, if_pos k1, Option.ite_some_none_eq_some, toClass_okp] at h
    obtain ⟨hc, rfl⟩ := h
    exact hc.2.2
  by_cases k3 : kty = 3
  · rw [if_neg k2, if_neg k1, if_pos k3, Option.ite_some_none_eq_some, toClass_rsa] at h
    obtain ⟨hc, rfl⟩ := h
    exact hc
  · rw [if_neg k2, if_neg k1, if_neg k3] at h
    cases h

/-- the type-specific parsers return the bytes following the key -/
theorem parseEC2_remaining (raw : Bytes) (k : Key) (rest : Bytes) (h : parseEC2 raw = .ok k rest) :
    ∃ p, p ≠ [] ∧ raw = p ++ rest := by
  obtain ⟨v, vals, hd, _⟩ := (parseEC2_iff raw k rest).1 h
  exact decode_consumes raw v rest hd
theorem parseOKP_remaining (raw : Bytes) (k : Key) (rest : Bytes) (h : parseOKP raw = .ok k rest) :
    ∃ p, p ≠ [] ∧ raw = p ++ rest := by
  obtain ⟨v, vals, hd, _⟩ := (parseOKP_iff raw k rest).1 h
  exact decode_consumes raw v rest hd
theorem parseRSA_remaining (raw : Bytes) (k : Key) (rest : Bytes) (h : parseRSA raw = .ok k rest) :
    ∃ p, p ≠ [] ∧ raw = p ++ rest := by
  obtain ⟨v, vals, hd, _⟩ := (parseRSA_iff raw k rest).1 h
  exact decode_consumes raw v rest hd

theorem parse_ok_supported (raw : Bytes) (k : Key) (rest : Bytes) (h : parse raw = .ok k rest) :
    rest = [] ∧ Supported k := by
  unfold parse at h
  cases hd : decode raw with
  | none => rw [hd] at h; cases h
  | some vr =>
    obtain ⟨v, r'⟩ := vr
    rw [hd] at h
    simp only [] at h
    by_cases hr : r' = []
    · subst hr
      simp only [ne_eq, not_true, if_false] at h
      have key : ∀ v' : Value, decode raw = some (v', rest) → rest = [] := by
        intro v' hd'
        rw [hd] at hd'
        simp only [Option.some.injEq, Prod.mk.injEq] at hd'
        exact hd'.2.symm
      split at h
      · cases h
      · cases h
      · split at h
        · obtain ⟨v', vals, hd', _, _, hc⟩ := (parseEC2_iff raw k rest).1 h
          exact ⟨key v' hd', supported_of_classify _ _ _ _ _ _ _ hc⟩
        · obtain ⟨v', vals, hd', _, _, hc⟩ := (parseOKP_iff raw k rest).1 h
          exact ⟨key v' hd', supported_of_classify _ _ _ _ _ _ _ hc⟩
        · obtain ⟨v', vals, hd', _, _, hc⟩ := (parseRSA_iff raw k rest).1 h
          exact ⟨key v' hd', supported_of_classify _ _ _ _ _ _ _ hc⟩
        · cases h
    · simp only [ne_eq, hr, not_false_iff, if_true] at h
      cases h

/-- trailing data after the key is rejected by the dispatching parser as an invalid key -/
theorem parse_trailing_rejected (raw : Bytes) (v : Value) (rest : Bytes) (hd : decode raw = some (v, rest)) (hr : rest ≠ []) :
    parse raw = .err .invalidKey := by
  unfold parse
  rw [hd]
  simp only [ne_eq, hr, not_false_iff, if_true]

/-- non-CBOR input is rejected as an invalid key -/
theorem parse_malformed_rejected (raw : Bytes) (hd : decode raw = none) : parse raw = .err .invalidKey := by
  unfold parse
  rw [hd]

/-- a supported key verifies under some standard scheme (key kind and algorithm are compatible) -/
theorem supported_has_scheme (k : Key) (h : Supported k) : (verifyParams k).isSome = true := by
  cases k with
  | ec2 alg crv x y =>
    have := (ecdsaVerifyTable_isNone alg)
    cases hl : lookup Generated.Cose.ecdsaVerifyTable alg with
    | none => rw [hl] at this; exact absurd h.2 (this.1 rfl)
    | some _ => simp [verifyParams, hl]
  | okp x => rfl
  | rsa alg n e =>
    have := (rsaVerifyTable_isNone alg)
    cases hl : lookup Generated.Cose.rsaVerifyTable alg with
    | none => rw [hl] at this; exact absurd h.1 (this.1 rfl)
    | some _ => simp [verifyParams, hl]

/-- the numbers handed to the crypto library are the encoded big-endian numbers -/
theorem beNat_stripZeros (b : Bytes) : Bytes.beNat (Bytes.stripZeros b) = Bytes.beNat b := by
  induction b with
  | nil => rfl
  | cons x xs ih =>
    unfold Bytes.stripZeros
    split
    · rename_i hx
      subst hx
      rw [ih]
      simp [Bytes.beNat, List.foldl]
    · rfl

/-! #### marshal then parse -/

def normalize : Key → Key
  | .ec2 a c x y => .ec2 a c (Bytes.stripZeros x) (Bytes.stripZeros y)
  | .okp x => .okp x
  | .rsa a n e => .rsa a (Bytes.stripZeros n) (Bytes.stripZeros e)
/-- byte-string members shorter than 2^32 bytes (so that `encHead` is the canonical CBOR head; lengths ≥ 2^64 are not encodable at all) -/
def SmallKey : Key → Prop
  | .ec2 _ _ x y => x.length < 2 ^ 32 ∧ y.length < 2 ^ 32
  | .okp _ => True
  | .rsa _ n e => n.length < 2 ^ 32 ∧ e.length < 2 ^ 32

/-- with nothing after the item, `parse` is the parser its key type selects -/
theorem parse_eq (raw : Bytes) (v : Value) (vals : List (Int × FieldVal)) (hd : decode raw = some (v, []))
    (hs : decodeStruct baseSchema v = .ok vals) :
    parse raw = match lookup Generated.Cose.keyDispatch (getInt vals 1) with
      | some "UnmarshalECDSAPublicKey" => parseEC2 raw
      | some "UnmarshalEdDSAPublicKey" => parseOKP raw
      | some "UnmarshalRSAPublicKey" => parseRSA raw
      | _ => .err .unsupportedKeyType := by
  unfold parse
  rw [hd]
  simp only [ne_eq, not_true, if_false]
  rw [hs]
  rfl

/-- the members `marshal` encodes -/
def members : Key → List (Int × FieldVal)
  | .ec2 alg crv x y =>
    [(1, .int 2), (3, .int alg), (-1, .int crv), (-2, .bytes (Bytes.stripZeros x)), (-3, .bytes (Bytes.stripZeros y))]
  | .okp x => [(1, .int 1), (3, .int (-8)), (-1, .int 6), (-2, .bytes x)]
  | .rsa alg n e => [(1, .int 3), (3, .int alg), (-1, .bytes (Bytes.stripZeros n)), (-2, .bytes (Bytes.stripZeros e))]

theorem members_keys (k : Key) : ((members k).map (·.1)).Nodup ∧ (members k).length < 24 := by
  cases k <;> simp [members]

theorem members_ok (k : Key) (hs : Supported k) (hk : SmallKey k) : ∀ m ∈ members k, MemOK m := by
  have hz := fun b => stripZeros_length_le b
  cases k with
  | ec2 alg crv x y =>
    have := hz x; have := hz y
    simp only [members, List.mem_cons, List.not_mem_nil, or_false, forall_eq_or_imp, forall_eq, MemOK, SmallInt]
    unfold Supported SmallKey at *
    omega
  | okp x =>
    simp only [members, List.mem_cons, List.not_mem_nil, or_false, forall_eq_or_imp, forall_eq, MemOK, SmallInt]
    unfold Supported at hs
    omega
  | rsa alg n e =>
    have := hz n; have := hz e
    simp only [members, List.mem_cons, List.not_mem_nil, or_false, forall_eq_or_imp, forall_eq, MemOK, SmallInt]
    unfold Supported SmallKey at *
    omega

/-- Marshal then parse returns an equal key (magnitudes in `big.Int.Bytes` normal form). -/
theorem marshal_parse_roundtrip (k : Key) (hs : Supported k) (hk : SmallKey k) : parse (marshal k) = .ok (normalize k) [] := by
  have hok := members_ok k hs hk
  have hd : decode (marshal k) = some (.map (memberVals (members k)), []) := by
    rw [show marshal k = encStruct (members k) by cases k <;> rfl]
    exact decode_encStruct _ hok (members_keys k).2
  -- the base structure gives the key type, which selects the parser; that parser reads the members back
  obtain ⟨vals0, hs0, h0⟩ := decodeStruct_memberVals baseSchema (members k) hok (by cases k <;> rfl)
    (members_keys k).1
  rw [parse_eq _ _ _ hd hs0, (h0 1 rfl).1]
  cases k with
  | ec2 alg crv x y =>
    obtain ⟨vals, hs1, h⟩ := decodeStruct_memberVals ec2Schema _ hok rfl (members_keys _).1
    refine (parseEC2_iff _ _ _).2 ⟨_, vals, hd, hs1, ?_⟩
    rw [(h 1 rfl).1, (h 3 rfl).1, (h (-1) rfl).1, (h (-2) rfl).2, (h (-3) rfl).2]
    exact ⟨rfl, (if_pos rfl).trans (if_pos hs)⟩
  | okp x =>
    obtain ⟨vals, hs1, h⟩ := decodeStruct_memberVals okpSchema _ hok rfl (members_keys _).1
    refine (parseOKP_iff _ _ _).2 ⟨_, vals, hd, hs1, ?_⟩
    rw [(h 1 rfl).1, (h 3 rfl).1, (h (-1) rfl).1, (h (-2) rfl).2]
    exact ⟨rfl, (if_neg (by decide)).trans ((if_pos rfl).trans (if_pos ⟨.inl rfl, rfl, hs⟩))⟩
  | rsa alg n e =>
    obtain ⟨vals, hs1, h⟩ := decodeStruct_memberVals rsaSchema _ hok rfl (members_keys _).1
    refine (parseRSA_iff _ _ _).2 ⟨_, vals, hd, hs1, ?_⟩
    rw [(h 1 rfl).1, (h 3 rfl).1, (h (-1) rfl).2, (h (-2) rfl).2]
    exact ⟨rfl, (if_neg (by decide)).trans ((if_neg (by decide)).trans ((if_pos rfl).trans
      (if_pos ⟨hs.1, (beNat_stripZeros e).symm ▸ hs.2⟩)))⟩

/-- the instance the ceremony examples use -/
theorem marshal_parse_roundtrip_okp (x : Bytes) (hs : Supported (.okp x)) : parse (marshal (.okp x)) = .ok (.okp x) [] :=
  marshal_parse_roundtrip (.okp x) hs trivial

end WebAuthn.C11
