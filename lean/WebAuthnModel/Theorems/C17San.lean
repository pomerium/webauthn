import WebAuthnModel.Model.San
import WebAuthnModel.Model.Attestation
import WebAuthnModel.Proofs.SanLemmas
/-
  C17, second clause at byte level — the Subject Alternative Name walk (Model/San.lean, compared with
  tpm.GetHardwareDetailsFromCertificate on every run): what the extension value of a TPM attestation certificate decodes to.
-/
namespace WebAuthn.Theorems.C17San
open WebAuthn WebAuthn.Asn1 WebAuthn.San

/-- contents octets of the three TCG attribute OIDs (2.23.133.2.1 / .2 / .3) -/
def mfrOID : Bytes := [0x67, 0x81, 0x05, 0x02, 0x01]
def modelOID : Bytes := [0x67, 0x81, 0x05, 0x02, 0x02]
def versionOID : Bytes := [0x67, 0x81, 0x05, 0x02, 0x03]

theorem tcg_oids :
    parseOID mfrOID = some Generated.Tpm.oidTPMManufacturer ∧ parseOID modelOID = some Generated.Tpm.oidTPMPartNumber ∧
    parseOID versionOID = some Generated.Tpm.oidTPMFirmwareVersion ∧ parseOID [0x55, 0x1d, 0x11] = some Generated.Tpm.oidSAN := by
  decide +kernel

def tlv (cls : Nat) (compound : Bool) (tag : Nat) (c : Bytes) : Bytes := encTL cls compound tag c.length ++ c

/-- SEQUENCE { OBJECT IDENTIFIER oid, UTF8String v } -/
def utf8Attr (oid v : Bytes) : Bytes := tlv 0 true 16 (tlv 0 false 6 oid ++ tlv 0 false 12 v)

/-- the SAN extension value of a TPM certificate as the TCG EK credential profile writes it:
    SEQUENCE { [4] { SEQUENCE { SET { manufacturer }, SET { model }, SET { version } } } } -/
def tpmSan (m p f : Bytes) : Bytes :=
  tlv 0 true 16 (tlv 2 true 4 (tlv 0 true 16 (tlv 0 true 17 (utf8Attr mfrOID m) ++ tlv 0 true 17 (utf8Attr modelOID p) ++ tlv 0 true 17 (utf8Attr versionOID f))))

/-- the three attributes of `tpmSan` as written, beside what they decode to -/
def tpmAttrs (m p f : Bytes) : List Proofs.SanLemmas.AttrEnc :=
  [⟨mfrOID, 12, m, ⟨Generated.Tpm.oidTPMManufacturer, true, m⟩⟩, ⟨modelOID, 12, p, ⟨Generated.Tpm.oidTPMPartNumber, true, p⟩⟩,
    ⟨versionOID, 12, f, ⟨Generated.Tpm.oidTPMFirmwareVersion, true, f⟩⟩]

theorem tpmSan_eq (m p f : Bytes) : tpmSan m p f = Proofs.SanLemmas.san (tpmAttrs m p f) := by
  rw [tpmSan, show ∀ a b c : Bytes, a ++ b ++ c = [a, b, c].flatten by simp]
  rfl

theorem tpmAttrs_size (m p f : Bytes) (hlen : m.length + p.length + f.length < 2 ^ 30) :
    (∀ q ∈ tpmAttrs m p f, q.vt < 2 ^ 31) ∧ Proofs.SanLemmas.size (tpmAttrs m p f) + 64 < 2 ^ 31 := by
  have h1 : mfrOID.length = 5 ∧ modelOID.length = 5 ∧ versionOID.length = 5 := ⟨rfl, rfl, rfl⟩
  constructor
  · simp [tpmAttrs]
  · simp only [Proofs.SanLemmas.size, tpmAttrs, List.map, List.sum_cons, List.sum_nil]; omega

/-- such a value decodes to one directory name carrying exactly those three string attributes (valid UTF-8, short enough for the
    2³¹ length limit of the decoder) -/
theorem parseExt_tpmSan (m p f : Bytes) (hm : utf8Valid m = true) (hp : utf8Valid p = true) (hf : utf8Valid f = true)
    (hlen : m.length + p.length + f.length < 2 ^ 30) :
    parseExt (tpmSan m p f) =
      (.names [⟨2, 4, some [⟨Generated.Tpm.oidTPMManufacturer, true, m⟩, ⟨Generated.Tpm.oidTPMPartNumber, true, p⟩,
                              ⟨Generated.Tpm.oidTPMFirmwareVersion, true, f⟩]⟩], true) := by
  rw [tpmSan_eq, Proofs.SanLemmas.parseExt_san _ _ (tpmAttrs_size m p f hlen).2]
  · rfl
  · intro q hq
    simp only [tpmAttrs, List.mem_cons, List.mem_nil_iff, or_false] at hq
    rcases hq with rfl | rfl | rfl
    · exact Proofs.SanLemmas.AttrEnc.utf8_ok _ _ _ tcg_oids.1 hm
    · exact Proofs.SanLemmas.AttrEnc.utf8_ok _ _ _ tcg_oids.2.1 hp
    · exact Proofs.SanLemmas.AttrEnc.utf8_ok _ _ _ tcg_oids.2.2.1 hf

/-- bytes after the outer SEQUENCE make the extension unusable ("unexpected trailing data") -/
theorem parseExt_trailing (m p f : Bytes) (x : UInt8) (rest : Bytes) (hm : utf8Valid m = true) (hp : utf8Valid p = true)
    (hf : utf8Valid f = true) (hlen : m.length + p.length + f.length < 2 ^ 30) :
    (parseExt (tpmSan m p f ++ x :: rest)).1 = .bad := by
  obtain ⟨hvt, hl⟩ := tpmAttrs_size m p f hlen
  rw [tpmSan_eq]
  exact Proofs.SanLemmas.parseExt_trailing _ x rest (by have := Proofs.SanLemmas.name_length _ hvt hl; omega)

/-- concrete values, evaluated in the kernel: string types, a non-string manufacturer value (skipped, hence no details), class and tag of the
    general name, a PrintableString with a character outside its alphabet (an error), a BMPString -/
def ascii (s : String) : Bytes := s.toUTF8.toList

def sanWith (mfrValue : Bytes) (cls tag : Nat) : Bytes :=
  tlv 0 true 16 (tlv cls true tag (tlv 0 true 16 (tlv 0 true 17 (tlv 0 true 16 (tlv 0 false 6 mfrOID ++ mfrValue)) ++
    tlv 0 true 17 (utf8Attr modelOID (ascii "NPCT6xx")) ++ tlv 0 true 17 (utf8Attr versionOID (ascii "id:13")))))

def detailsOf (v : Bytes) : Option (Bytes × String × Bytes × Bytes) :=
  (Tpm.detailsFromSan [(parseExt v).1]).map (fun d => (d.vendorId, d.vendorName, d.partNumber, d.firmwareVersion))

/-- "id:414D4400" as a BMPString (UTF-16BE) -/
def bmpId : Bytes := [0, 0x69, 0, 0x64, 0, 0x3a, 0, 0x34, 0, 0x31, 0, 0x34, 0, 0x44, 0, 0x34, 0, 0x34, 0, 0x30, 0, 0x30]

/-- the BMPString case: `utf16ToUtf8` is defined by well-founded recursion, which the kernel does not evaluate; the decoded value is
    computed through `Proofs.SanLemmas.utf16ToUtf8_bmp` and the walk through `Proofs.SanLemmas.parseExt_san` -/
theorem bmp_san :
    detailsOf (sanWith (tlv 0 false 30 [0, 0x69, 0, 0x64, 0, 0x3a, 0, 0x34, 0, 0x31, 0, 0x34, 0, 0x44, 0, 0x34, 0, 0x34, 0, 0x30, 0, 0x30]) 2 4) =
      some ([0x41, 0x4D, 0x44, 0x00], "AMD", ascii "NPCT6xx", ascii "id:13") := by
  have hu : utf16ToUtf8 (bmpUnits bmpId) = ascii "id:414D4400" := by
    rw [Proofs.SanLemmas.utf16ToUtf8_bmp _ (by decide +kernel)]; decide +kernel
  have hv : anyValue ⟨0, false, 30, bmpId.length⟩ bmpId = .str (ascii "id:414D4400") := by
    rw [← hu]
    simp [anyValue, bmpId]
  have hs : sanWith (tlv 0 false 30 bmpId) 2 4 =
      Proofs.SanLemmas.san
        [⟨mfrOID, 30, bmpId, ⟨Generated.Tpm.oidTPMManufacturer, true, ascii "id:414D4400"⟩⟩,
         ⟨modelOID, 12, ascii "NPCT6xx", ⟨Generated.Tpm.oidTPMPartNumber, true, ascii "NPCT6xx"⟩⟩,
         ⟨versionOID, 12, ascii "id:13", ⟨Generated.Tpm.oidTPMFirmwareVersion, true, ascii "id:13"⟩⟩] := by
    rw [sanWith, show ∀ a b c : Bytes, a ++ b ++ c = [a, b, c].flatten by simp]
    rfl
  show detailsOf (sanWith (tlv 0 false 30 bmpId) 2 4) = _
  rw [detailsOf, hs, Proofs.SanLemmas.parseExt_san _ _ (by decide +kernel)]
  · decide +kernel
  · intro q hq
    simp only [List.mem_cons, List.mem_nil_iff, or_false] at hq
    rcases hq with rfl | rfl | rfl
    · exact ⟨tcg_oids.1, rfl, hv, by decide⟩
    · exact Proofs.SanLemmas.AttrEnc.utf8_ok _ _ _ tcg_oids.2.1 (by decide +kernel)
    · exact Proofs.SanLemmas.AttrEnc.utf8_ok _ _ _ tcg_oids.2.2.1 (by decide +kernel)

theorem concrete_sans :
    detailsOf (tpmSan (ascii "id:414D4400") (ascii "NPCT6xx") (ascii "id:13")) = some ([0x41, 0x4D, 0x44, 0x00], "AMD", ascii "NPCT6xx", ascii "id:13") ∧
    detailsOf (sanWith (tlv 0 false 19 (ascii "id:494E5443")) 2 4) = some ([0x49, 0x4E, 0x54, 0x43], "Intel", ascii "NPCT6xx", ascii "id:13") ∧
    detailsOf (sanWith (tlv 0 false 30 [0, 0x69, 0, 0x64, 0, 0x3a, 0, 0x34, 0, 0x31, 0, 0x34, 0, 0x44, 0, 0x34, 0, 0x34, 0, 0x30, 0, 0x30]) 2 4) =
      some ([0x41, 0x4D, 0x44, 0x00], "AMD", ascii "NPCT6xx", ascii "id:13") ∧
    detailsOf (sanWith (tlv 0 false 4 (ascii "id:414D4400")) 2 4) = none ∧
    detailsOf (sanWith (tlv 0 false 19 (ascii "id:414D4400_")) 2 4) = none ∧
    detailsOf (sanWith (tlv 0 false 12 (ascii "id:414D4400")) 0 4) = none ∧
    detailsOf (sanWith (tlv 0 false 12 (ascii "id:414D4400")) 2 3) = none ∧
    detailsOf (sanWith (tlv 0 false 12 (ascii "id:00000000")) 2 4) = none ∧
    detailsOf (sanWith (tlv 0 false 12 (ascii "id:414D440")) 2 4) = none := by
  refine ⟨?_, ?_, bmp_san, ?_, ?_, ?_, ?_, ?_, ?_⟩ <;> decide +kernel

end WebAuthn.Theorems.C17San
