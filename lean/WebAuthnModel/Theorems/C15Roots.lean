import WebAuthnModel.Theorems.C15
/-
  C15 (adjacent code) — `MetadataStatement.ParseAttestationRootCertificates`: the trust anchors an application takes out of an accepted
  BLOB payload.  Not part of C15's statement (which ends at the payload returned); modelled because it is the other consumer of
  `x509.ParseCertificate` in `fido/metadata.go` and a base64 variant slip there would silently empty or refuse anchor lists.

  What is proved: the call succeeds exactly when every entry, with blanks removed, is padded standard base64 of bytes that parse as a
  certificate, and then returns one certificate per entry in the entries' order; blanks (space, CR, LF, TAB) anywhere never matter;
  an entry that lacks padding, or holds a character of another alphabet ('-', '_', …), makes the call fail.
-/
namespace WebAuthn.C15Roots
open WebAuthn

/-- what a successful call returns: one view per entry, in order, each the parse of that entry's decoded bytes -/
def RootViews (env : Prog.Env) : List Bytes → List CertView → Prop
  | [], [] => True
  | e :: es, c :: cs => (∃ der, Fido.rootCertDer e = some der ∧ env.answer (.x509Parse der) = .cert c) ∧ RootViews env es cs
  | _, _ => False

/-- `RootViews` is the successful run of `List.mapM` with "decode, then parse as a certificate" as the step -/
theorem rootViews_iff_mapM (env : Prog.Env) (es : List Bytes) (cs : List CertView) :
    RootViews env es cs ↔
      es.mapM (fun e => (Fido.rootCertDer e).bind fun der => Prog.run env (Att.askCert der)) = some cs := by
  induction es generalizing cs with
  | nil => cases cs <;> simp [RootViews]
  | cons e rest ih =>
    rw [Prog.mapM_cons_eq_some]
    cases cs with
    | nil => simp [RootViews]
    | cons c cs =>
      simp only [RootViews, ih, Option.bind_eq_some_iff, Att.run_askCert, List.cons.injEq]
      constructor
      · rintro ⟨h1, h2⟩; exact ⟨_, _, h1, h2, rfl, rfl⟩
      · rintro ⟨_, _, h1, h2, rfl, rfl⟩; exact ⟨h1, h2⟩

theorem rootCerts_mapM (env : Prog.Env) (es : List Bytes) :
    Prog.run env (Fido.parseRootCertificates es) =
      es.mapM (fun e => (Fido.rootCertDer e).bind fun der => Prog.run env (Att.askCert der)) := by
  refine Prog.run_traverse env Fido.parseRootCertificates _ rfl (fun e rest => ?_) es
  simp only [Fido.parseRootCertificates]
  cases Fido.rootCertDer e with
  | none => rfl
  | some der =>
    simp only [Att.askCert, Prog.run_bind, Prog.run_query, Option.bind_some]
    cases env.answer (.x509Parse der) with
    | cert c => simp only [Prog.run_bind]; cases Prog.run env (Fido.parseRootCertificates rest) <;> rfl
    | _ => rfl

theorem rootCerts_run (env : Prog.Env) (es : List Bytes) (cs : List CertView) :
    Prog.run env (Fido.parseRootCertificates es) = some cs ↔ RootViews env es cs := by
  rw [rootCerts_mapM, rootViews_iff_mapM]

/-- one certificate per entry -/
theorem rootCerts_length (env : Prog.Env) (es : List Bytes) (cs : List CertView)
    (h : Prog.run env (Fido.parseRootCertificates es) = some cs) : cs.length = es.length :=
  Prog.mapM_some_length ((rootCerts_mapM env es).symm.trans h)

/-- every entry of an accepted list decodes and parses -/
theorem rootCerts_all (env : Prog.Env) (es : List Bytes) (cs : List CertView)
    (h : Prog.run env (Fido.parseRootCertificates es) = some cs) :
    ∀ e ∈ es, ∃ der cv, Fido.rootCertDer e = some der ∧ env.answer (.x509Parse der) = .cert cv := fun e he =>
  let ⟨cv, hcv⟩ := Prog.mapM_isSome_iff.1 ⟨cs, (rootCerts_mapM env es).symm.trans h⟩ e he
  let ⟨der, h1, h2⟩ := Option.bind_eq_some_iff.1 hcv
  ⟨der, cv, h1, (Att.run_askCert ..).1 h2⟩

/-- one entry that does not decode, or whose bytes are not a certificate, fails the whole call -/
theorem rootCerts_reject (env : Prog.Env) (es : List Bytes) (e : Bytes) (he : e ∈ es)
    (h : ∀ der, Fido.rootCertDer e = some der → ∀ cv, env.answer (.x509Parse der) ≠ .cert cv) :
    Prog.run env (Fido.parseRootCertificates es) = none :=
  Option.eq_none_iff_forall_ne_some.2 fun cs hr =>
    let ⟨der, cv, h1, h2⟩ := rootCerts_all env es cs hr e he
    h der h1 cv h2

/-- when every entry decodes and parses, the call succeeds -/
theorem rootCerts_accept (env : Prog.Env) (es : List Bytes)
    (h : ∀ e ∈ es, ∃ der cv, Fido.rootCertDer e = some der ∧ env.answer (.x509Parse der) = .cert cv) :
    ∃ cs, Prog.run env (Fido.parseRootCertificates es) = some cs := by
  rw [rootCerts_mapM, Prog.mapM_isSome_iff]
  intro e he
  obtain ⟨der, cv, h1, h2⟩ := h e he
  exact ⟨cv, Option.bind_eq_some_iff.2 ⟨der, h1, (Att.run_askCert ..).2 h2⟩⟩

/-! ### the entry decoder -/

/-- blanks never matter: two entries that agree once space, CR, LF and TAB are removed decode alike -/
theorem rootCertDer_blanks (e e' : Bytes)
    (h : e.filter (fun c => !Fido.isRootCertSpace c) = e'.filter (fun c => !Fido.isRootCertSpace c)) :
    Fido.rootCertDer e = Fido.rootCertDer e' := by
  simp [Fido.rootCertDer, h]

/-- what a decodable text starts with: two alphabet characters, then `==` and the end, or a third and `=` and the end, or a fourth and
    a decodable rest -/
theorem decodeClean_quad {a b c d : UInt8} {rest v : Bytes} (h : B64Std.decodeClean (a :: b :: c :: d :: rest) = some v) :
    B64Std.valOf a ≠ none ∧ B64Std.valOf b ≠ none ∧
    (c = B64Std.pad ∧ d = B64Std.pad ∧ rest = [] ∨
     B64Std.valOf c ≠ none ∧
      (d = B64Std.pad ∧ rest = [] ∨ B64Std.valOf d ≠ none ∧ ∃ r, B64Std.decodeClean rest = some r)) := by
  rw [B64Std.decodeClean] at h
  simp only [Option.bind_eq_bind, Option.pure_def, Option.bind_eq_some_iff] at h
  obtain ⟨x, hx, y, hy, h⟩ := h
  refine ⟨hx ▸ Option.some_ne_none _, hy ▸ Option.some_ne_none _, ?_⟩
  split at h
  next hc =>
    split at h
    next hd => exact .inl ⟨hc, hd⟩
    · cases h
  next hc =>
    obtain ⟨z, hz, h⟩ := Option.bind_eq_some_iff.1 h
    refine .inr ⟨hz ▸ Option.some_ne_none _, ?_⟩
    split at h
    next hd =>
      split at h
      next hr => exact .inl ⟨hd, hr⟩
      · cases h
    next hd =>
      simp only [Option.bind_eq_some_iff] at h
      obtain ⟨w, hw, r, hr, -⟩ := h
      exact .inr ⟨hw ▸ Option.some_ne_none _, r, hr⟩

/-- padded base64 only: a decodable text without CR/LF has a length divisible by four -/
theorem decodeClean_length (s v : Bytes) (h : B64Std.decodeClean s = some v) : s.length % 4 = 0 := by
  induction s using B64Std.decodeClean.induct generalizing v with
  | case1 => rfl
  | case2 a b c d rest ih =>
    obtain ⟨-, -, ⟨-, -, rfl⟩ | ⟨-, ⟨-, rfl⟩ | ⟨-, r, hr⟩⟩⟩ := decodeClean_quad h
    · simp
    · simp
    · have := ih r hr
      simp only [List.length_cons]
      omega
  | case3 s h1 h2 =>
    unfold B64Std.decodeClean at h
    split at h
    · exact absurd rfl h1
    · exact absurd rfl (h2 _ _ _ _ _)
    · cases h

/-- an entry without its padding (what `RawStdEncoding` would accept) is refused -/
theorem rootCertDer_needs_padding (e : Bytes)
    (h : (e.filter (fun c => !Fido.isRootCertSpace c)).length % 4 ≠ 0) : Fido.rootCertDer e = none := by
  cases hr : Fido.rootCertDer e with
  | none => rfl
  | some v =>
    exfalso
    apply h
    unfold Fido.rootCertDer B64Std.decode at hr
    have hl := decodeClean_length _ _ hr
    -- every CR/LF is already gone: filtering them again changes nothing
    have : ((e.filter (fun c => !Fido.isRootCertSpace c)).filter (fun c => !B64Std.isNewline c)) = e.filter (fun c => !Fido.isRootCertSpace c) := by
      rw [List.filter_filter]
      apply List.filter_congr
      intro c _
      simp only [Fido.isRootCertSpace, B64Std.isNewline]
      by_cases h1 : c = 0x0d <;> by_cases h2 : c = 0x0a <;> simp [h1, h2]
    rw [this] at hl
    exact hl

/-- every character of a decodable text is of the standard alphabet or the padding character -/
theorem decodeClean_alphabet (s v : Bytes) (h : B64Std.decodeClean s = some v) :
    ∀ c ∈ s, B64Std.valOf c ≠ none ∨ c = B64Std.pad := by
  induction s using B64Std.decodeClean.induct generalizing v with
  | case1 => intro c hc; cases hc
  | case2 a b c d rest ih =>
    obtain ⟨ha, hb, h'⟩ := decodeClean_quad h
    intro ch hch
    simp only [List.mem_cons] at hch
    rcases hch with rfl | rfl | rfl | rfl | hch
    · exact .inl ha
    · exact .inl hb
    · exact h'.elim (fun h' => .inr h'.1) (fun h' => .inl h'.1)
    · rcases h' with ⟨-, hd, -⟩ | ⟨-, ⟨hd, -⟩ | ⟨hd, -⟩⟩
      · exact .inr hd
      · exact .inr hd
      · exact .inl hd
    · rcases h' with ⟨-, -, rfl⟩ | ⟨-, ⟨-, rfl⟩ | ⟨-, r, hr⟩⟩
      · cases hch
      · cases hch
      · exact ih r hr ch hch
  | case3 s h1 h2 =>
    unfold B64Std.decodeClean at h
    split at h
    · exact absurd rfl h1
    · exact absurd rfl (h2 _ _ _ _ _)
    · cases h
/-- an entry holding a character that is neither a blank, nor of the standard alphabet, nor '=' — the URL alphabet's '-' and '_', for
    one — is refused -/
theorem rootCertDer_rejects_foreign (e : Bytes) (c : UInt8) (hc : c ∈ e) (hs : Fido.isRootCertSpace c = false)
    (hv : B64Std.valOf c = none) (hp : c ≠ B64Std.pad) : Fido.rootCertDer e = none := by
  cases hr : Fido.rootCertDer e with
  | none => rfl
  | some v =>
    exfalso
    unfold Fido.rootCertDer B64Std.decode at hr
    have hmem : c ∈ (e.filter (fun c => !Fido.isRootCertSpace c)).filter (fun c => !B64Std.isNewline c) := by
      rw [List.mem_filter, List.mem_filter]
      refine ⟨⟨hc, by simp [hs]⟩, ?_⟩
      simp only [Fido.isRootCertSpace, Bool.or_eq_false_iff, decide_eq_false_iff_not] at hs
      simp [B64Std.isNewline, hs.1.1.2, hs.1.2]
    rcases decodeClean_alphabet _ _ hr c hmem with h | h
    · exact h hv
    · exact hp h

theorem url_alphabet_is_foreign : B64Std.valOf 45 = none ∧ B64Std.valOf 95 = none := by decide

/-! ### non-vacuity: a two-entry list with blanks inside is accepted, in order -/

def rootsEnv : Prog.Env := ⟨fun q => match q with
  | .x509Parse [1, 2, 3] => .cert default
  | .x509Parse [255] => .cert { (default : CertView) with version := 3 }
  | _ => .none⟩

/-- "AQID" = 01 02 03 written with a line break and a space inside; "/w==" = ff -/
example : Prog.run rootsEnv (Fido.parseRootCertificates [[65, 81, 10, 32, 73, 68], [47, 119, 61, 61]])
    = some [default, { (default : CertView) with version := 3 }] := by decide
/-- the same first entry without its padding-free form altered to the URL alphabet, or the second without padding: refused -/
example : Prog.run rootsEnv (Fido.parseRootCertificates [[65, 81, 73, 68], [47, 119]]) = none := by decide
example : Prog.run rootsEnv (Fido.parseRootCertificates [[65, 81, 73, 68], [95, 119, 61, 61]]) = none := by decide

end WebAuthn.C15Roots
