import WebAuthnModel.Theorems.C02
/-
  C06 — storage discipline of the registration ceremony (relying_party.go `VerifyRegistrationCeremony`,
  storage.go): one read, at most one write, no re-binding, failures write nothing effective.
-/
open WebAuthn
namespace WebAuthn.C06
open WebAuthn.C02

/-! ### the statements of C06 -/

/-- success writes exactly one record — the attested id, options.user.id, the attested key bytes — after exactly one read, and returns that same record -/
theorem reg_success_writes_one (env rp o c opts get set cred)
    (h : (Prog.run env (verifyRegistration rp o c opts get set)).result = .ok cred) :
    (Prog.run env (verifyRegistration rp o c opts get set)).calls = [Call.get cred.id, Call.set cred] ∧ set cred = .ok ∧
    cred.owner = o.userId ∧ ∃ id key, Spec.RegPreOK env rp o c opts id key ∧ cred.id = id ∧ cred.publicKey = key := by
  obtain ⟨id, key, hpre, rfl, hget, hset⟩ := (reg_iff ..).1 h
  refine ⟨?_, hset, rfl, id, key, hpre, rfl, rfl⟩
  rw [run_of_pre env rp o c opts get set id key hpre, storageStep_write hget, hset]

/-- on failure nothing is written successfully: every `set` in the log was answered with an error -/
theorem reg_failure_no_effective_write (env rp o c opts get set e)
    (h : (Prog.run env (verifyRegistration rp o c opts get set)).result = .error e) :
    ∀ cr, Call.set cr ∈ (Prog.run env (verifyRegistration rp o c opts get set)).calls → set cr = .err := by
  intro cr hmem
  obtain ⟨e', hr⟩ | ⟨id, key, _, hr⟩ := run_cases env rp o c opts get set <;> rw [hr] at h hmem
  · cases hmem
  obtain hs | hs | ⟨_, _, hs⟩ | ⟨hset, hs⟩ := storageStep_cases o.userId get set id key <;> rw [hs] at h hmem
  · simp at hmem
  · simp at hmem
  · cases h
  · simp only [List.mem_cons, reduceCtorEq, Call.set.injEq, List.not_mem_nil, or_false, false_or] at hmem
    rw [hmem]; exact hset

/-- at most one read and at most one write, the read first -/
theorem reg_calls_shape (env rp o c opts get set) :
    let calls := (Prog.run env (verifyRegistration rp o c opts get set)).calls
    calls = [] ∨ (∃ id, calls = [Call.get id]) ∨ (∃ id cr, calls = [Call.get id, Call.set cr]) := by
  dsimp only
  obtain ⟨e, hr⟩ | ⟨id, key, _, hr⟩ := run_cases env rp o c opts get set <;> rw [hr]
  · exact .inl rfl
  obtain hs | hs | ⟨_, _, hs⟩ | ⟨_, hs⟩ := storageStep_cases o.userId get set id key <;> rw [hs]
  · exact .inr (.inl ⟨id, rfl⟩)
  · exact .inr (.inl ⟨id, rfl⟩)
  · exact .inr (.inr ⟨id, _, rfl⟩)
  · exact .inr (.inr ⟨id, _, rfl⟩)

/-- no re-binding: an id owned by another user fails with differentUser and is never written -/
theorem no_rebinding (env rp o c opts get set id key ex)
    (hpre : Spec.RegPreOK env rp o c opts id key) (hget : get id = .found ex) (hown : ex.owner ≠ o.userId) :
    Prog.run env (verifyRegistration rp o c opts get set) = ⟨.error .differentUser, [Call.get id]⟩ := by
  rw [run_of_pre env rp o c opts get set id key hpre]
  exact storageStep_other_owner hget hown

/-- only not-found (possibly wrapped) counts as "not yet registered": any other read failure fails the ceremony with the storage error and writes nothing -/
theorem read_error_fails (env rp o c opts get set id key)
    (hpre : Spec.RegPreOK env rp o c opts id key) (hget : get id = .err) :
    Prog.run env (verifyRegistration rp o c opts get set) = ⟨.error .storageErr, [Call.get id]⟩ := by
  rw [run_of_pre env rp o c opts get set id key hpre]
  exact storageStep_read_err hget

/-- a write failure is a failure, never success -/
theorem write_error_fails (env rp o c opts get set id key)
    (hpre : Spec.RegPreOK env rp o c opts id key)
    (hget : get id = .notFound ∨ get id = .wrappedNotFound ∨ ∃ ex, get id = .found ex ∧ ex.owner = o.userId)
    (hset : set ⟨id, o.userId, key⟩ = .err) :
    (Prog.run env (verifyRegistration rp o c opts get set)).result = .error .saveErr := by
  rw [run_of_pre env rp o c opts get set id key hpre, storageStep_write hget, hset]

/-- the regenerated call-order facts (translator T9): registration calls GetCredential then SetCredential, authentication only GetCredential; after SetCredential only its own error check and the final return follow -/
theorem storage_call_facts : Generated.Core.regStorageCalls = ["GetCredential", "SetCredential"]
    ∧ Generated.Core.authStorageCalls = ["GetCredential"]
    ∧ Generated.Core.regAfterSetKinds = ["if-return-nil", "return-ok"] :=
  ⟨rfl, rfl, rfl⟩

end WebAuthn.C06
