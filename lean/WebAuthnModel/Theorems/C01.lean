import WebAuthnModel.Proofs.Run
import WebAuthnModel.Theorems.C10
import WebAuthnModel.Theorems.C12
import WebAuthnModel.Theorems.C11
/-
  C01 — `VerifyAuthenticationCeremony` returns the stored credential exactly when the ten conditions of
  `Spec.AuthOK` hold; otherwise it returns an error.  Storage is consulted at most once (a read of the
  response's id) and never written.  Everything is proved for every environment (whatever the
  dependencies answer) and every storage behaviour.
-/
namespace WebAuthn.C01
open WebAuthn

/-- what `json.Unmarshal` into the client data returns, as an option: the Lean model of encoding/json (`Model/Json`);
    the environment is not consulted -/
def clientDataOf (_env : Prog.Env) (raw : Bytes) : Option ClientData := Json.clientData raw

theorem clientDataOf_eq_some (env : Prog.Env) (raw : Bytes) (cd : ClientData) :
    clientDataOf env raw = some cd ↔ Json.clientData raw = some cd := Iff.rfl

/-! ### translating the code's tests into the specification's conditions -/

theorem allow_iff (o : RequestOptions) (a : Assertion) :
    ¬ (o.allow ≠ [] ∧ (!o.allow.contains a.rawId) = true) ↔ (o.allow = [] ∨ a.rawId ∈ o.allow) := by
  rw [Decidable.not_and_iff_not_or_not, Decidable.not_not, Bool.not_eq_true, Bool.not_eq_false', List.contains_iff_mem]

theorem type_str : strBytes Generated.Core.clientDataTypeGet = Spec.str "webauthn.get" := rfl
theorem uv_str : strBytes Generated.Core.userVerificationRequired = Spec.str "required" := rfl

theorem sig_iff (env : Prog.Env) (pk msg sig : Bytes) :
    (∃ k rest, Cose.parse pk = .ok k rest ∧ Prog.run env (Cose.verify k msg sig) = true) ↔ Spec.SigOK env pk msg sig := by
  unfold Spec.SigOK
  simp only [C12.verify_iff]

theorem err_ne_ok (e : AuthErr) (l : List Call) (cred : Credential) :
    ((⟨.error e, l⟩ : AuthOut).result = .ok cred) ↔ False := by simp

/-! ### one walk down the program -/

/-- what holds of the outcome once the allow-list is passed: the one read is logged, and a credential comes out only
    under `Spec.AuthOK`.  Every rejecting leaf satisfies it for no reason (`post_err`), so one walk past the guards,
    collecting what each lets through, proves it of the run. -/
def Post (env : Prog.Env) (rp : RP) (o : RequestOptions) (a : Assertion) (get : Bytes → GetOutcome) (out : AuthOut) : Prop :=
  out.calls = [Call.get a.rawId] ∧ ∀ cred, out.result = .ok cred → Spec.AuthOK env rp o a get cred

theorem post_err {env rp o a get} {e : AuthErr} : Post env rp o a get ⟨.error e, [Call.get a.rawId]⟩ :=
  ⟨rfl, nofun⟩

theorem post_guard {env rp o a get} {c : Prop} {_ : Decidable c} {e : AuthErr} {p : Prog AuthOut}
    (h : ¬c → Post env rp o a get (Prog.run env p)) :
    Post env rp o a get (Prog.run env (if c then pure ⟨.error e, [Call.get a.rawId]⟩ else p)) := by
  split
  · exact post_err
  · exact h ‹_›

theorem run_post (env : Prog.Env) (rp : RP) (o : RequestOptions) (a : Assertion) (get : Bytes → GetOutcome)
    (hallow : o.allow = [] ∨ a.rawId ∈ o.allow) : Post env rp o a get (Prog.run env (verifyAuthentication rp o a get)) := by
  unfold verifyAuthentication
  rw [Prog.run_ite, if_neg ((allow_iff o a).2 hallow)]
  generalize hget : get a.rawId = g
  obtain cred | _ | _ | _ := g
  case notFound => exact post_err
  case wrappedNotFound => exact post_err
  case err => exact post_err
  refine post_guard fun hown => ?_
  rw [Prog.run_bind]
  generalize hcd : Prog.run env (askClientData _) = x
  obtain _ | cd := x
  · exact post_err
  refine post_guard fun ht => ?_
  refine post_guard fun hch => ?_
  rw [Prog.run_bind]
  refine post_guard fun hor => ?_
  generalize had : unmarshalAuthData _ = x
  obtain _ | ⟨ad, rest⟩ := x
  · exact post_err
  rw [Prog.run_bind, Att.run_sha256]
  refine post_guard fun hrp => ?_
  refine post_guard fun hup => ?_
  refine post_guard fun huv => ?_
  rw [Prog.run_bind, Att.run_sha256]
  generalize hk : Cose.parse _ = x
  obtain ⟨k, r⟩ | _ | _ := x
  case err => exact post_err
  case unmodelled => exact post_err
  rw [Prog.run_bind, Prog.run_ite]
  split
  case isFalse => exact post_err
  rename_i hv
  refine ⟨rfl, fun _ h => ?_⟩
  cases h
  exact {
    allowed := hallow
    stored := hget
    owner := Classical.not_not.1 hown
    clientData := ⟨cd, hcd, Classical.not_not.1 ht, Classical.not_not.1 hch, (run_originMatches ..).1 (of_not_bnot hor)⟩
    authData := ⟨ad, rest, had, Classical.not_not.1 hrp, (C10.flag_bits _).1 ▸ of_not_bnot hup,
      fun hreq => (C10.flag_bits _).2.1 ▸ of_not_bnot fun hv => huv ⟨hreq, hv⟩⟩
    signature := (sig_iff ..).1 ⟨k, r, hk, hv⟩ }

theorem run_notAllowed (env : Prog.Env) (rp : RP) (o : RequestOptions) (a : Assertion) (get : Bytes → GetOutcome)
    (h : ¬(o.allow = [] ∨ a.rawId ∈ o.allow)) :
    Prog.run env (verifyAuthentication rp o a get) = ⟨.error .notAllowed, []⟩ := by
  unfold verifyAuthentication
  rw [Prog.run_ite, if_pos (Classical.not_not.1 (mt (allow_iff o a).1 h))]
  rfl

/-! ### C01 -/

/-- VerifyAuthenticationCeremony returns `cred` iff all ten conditions hold — for every environment, RP, options,
    response and storage answer -/
theorem auth_iff (env : Prog.Env) (rp : RP) (o : RequestOptions) (a : Assertion) (get : Bytes → GetOutcome)
    (cred : Credential) :
    (Prog.run env (verifyAuthentication rp o a get)).result = .ok cred ↔ Spec.AuthOK env rp o a get cred := by
  constructor
  · intro h
    by_cases hallow : o.allow = [] ∨ a.rawId ∈ o.allow
    · exact (run_post env rp o a get hallow).2 cred h
    · rw [run_notAllowed env rp o a get hallow] at h
      cases h
  · intro h
    obtain ⟨cd, hcd, ht, hch, hor⟩ := h.clientData
    obtain ⟨ad, rest, had, hrp, hup, huv⟩ := h.authData
    obtain ⟨k, r, hk, hv⟩ := (sig_iff ..).2 h.signature
    have huv' : ¬(o.userVerification = Spec.str "required" ∧ (!Spec.bit ad.flags 2) = true) :=
      fun ⟨h1, h2⟩ => by rw [huv h1] at h2; cases h2
    simp only [verifyAuthentication, (allow_iff o a).2 h.allowed, h.stored, h.owner, Prog.run_bind,
      show Prog.run env (askClientData a.clientDataJSON) = some cd from hcd, type_str, ht, hch, (run_originMatches ..).2 hor,
      had, Att.run_sha256, hrp, (C10.flag_bits _).1, hup, uv_str, (C10.flag_bits _).2.1, huv', hk, hv, ne_eq,
      not_true_eq_false, ↓reduceIte, Bool.not_true, Bool.false_eq_true, Prog.run_pure]

/-- the credential returned is the stored record for that id -/
theorem auth_returns_stored (env : Prog.Env) (rp : RP) (o : RequestOptions) (a : Assertion) (get : Bytes → GetOutcome)
    (cred : Credential) (h : (Prog.run env (verifyAuthentication rp o a get)).result = .ok cred) :
    get a.rawId = .found cred :=
  ((auth_iff env rp o a get cred).mp h).stored

/-- an unknown id yields the storage's own not-found error (when the allow-list does not already exclude it) -/
theorem auth_unknown_id (env : Prog.Env) (rp : RP) (o : RequestOptions) (a : Assertion) (get : Bytes → GetOutcome)
    (hallow : o.allow = [] ∨ a.rawId ∈ o.allow) (hget : get a.rawId = .notFound) :
    (Prog.run env (verifyAuthentication rp o a get)).result = .error .storageNotFound := by
  unfold verifyAuthentication
  rw [Prog.run_ite, if_neg ((allow_iff o a).mpr hallow), hget]
  rfl

theorem auth_unknown_id_wrapped (env : Prog.Env) (rp : RP) (o : RequestOptions) (a : Assertion)
    (get : Bytes → GetOutcome) (hallow : o.allow = [] ∨ a.rawId ∈ o.allow) (hget : get a.rawId = .wrappedNotFound) :
    (Prog.run env (verifyAuthentication rp o a get)).result = .error .storageWrappedNotFound := by
  unfold verifyAuthentication
  rw [Prog.run_ite, if_neg ((allow_iff o a).mpr hallow), hget]
  rfl

theorem auth_storage_error (env : Prog.Env) (rp : RP) (o : RequestOptions) (a : Assertion) (get : Bytes → GetOutcome)
    (hallow : o.allow = [] ∨ a.rawId ∈ o.allow) (hget : get a.rawId = .err) :
    (Prog.run env (verifyAuthentication rp o a get)).result = .error .storageErr := by
  unfold verifyAuthentication
  rw [Prog.run_ite, if_neg ((allow_iff o a).mpr hallow), hget]
  rfl

/-! every response violating any one condition is rejected: contrapositive per clause (corollaries of `auth_iff`) -/

theorem auth_reject_not_allowed (env : Prog.Env) (rp : RP) (o : RequestOptions) (a : Assertion)
    (get : Bytes → GetOutcome) (h1 : o.allow ≠ []) (h2 : a.rawId ∉ o.allow) :
    ∀ cred, (Prog.run env (verifyAuthentication rp o a get)).result ≠ .ok cred := by
  intro cred h
  rcases ((auth_iff env rp o a get cred).mp h).allowed with h | h
  · exact h1 h
  · exact h2 h

theorem auth_reject_foreign_user_handle (env : Prog.Env) (rp : RP) (o : RequestOptions) (a : Assertion)
    (get : Bytes → GetOutcome) (cred : Credential) (hget : get a.rawId = .found cred) (h : a.userHandle ≠ cred.owner) :
    ∀ c, (Prog.run env (verifyAuthentication rp o a get)).result ≠ .ok c := by
  intro c hc
  have hok := (auth_iff env rp o a get c).mp hc
  have hs := hok.stored
  rw [hget] at hs
  cases hs
  exact h hok.owner

theorem auth_reject_no_UP (env : Prog.Env) (rp : RP) (o : RequestOptions) (a : Assertion) (get : Bytes → GetOutcome)
    (ad : AuthData) (rest : Bytes) (hu : unmarshalAuthData a.authenticatorData = some (ad, rest))
    (h : Spec.bit ad.flags 0 = false) :
    ∀ c, (Prog.run env (verifyAuthentication rp o a get)).result ≠ .ok c := by
  intro c hc
  obtain ⟨ad', rest', hu', _, hup, _⟩ := ((auth_iff env rp o a get c).mp hc).authData
  rw [hu] at hu'
  cases hu'
  rw [h] at hup
  cases hup

theorem auth_reject_no_UV (env : Prog.Env) (rp : RP) (o : RequestOptions) (a : Assertion) (get : Bytes → GetOutcome)
    (ad : AuthData) (rest : Bytes) (hu : unmarshalAuthData a.authenticatorData = some (ad, rest))
    (hreq : o.userVerification = Spec.str "required") (h : Spec.bit ad.flags 2 = false) :
    ∀ c, (Prog.run env (verifyAuthentication rp o a get)).result ≠ .ok c := by
  intro c hc
  obtain ⟨ad', rest', hu', _, _, huv⟩ := ((auth_iff env rp o a get c).mp hc).authData
  rw [hu] at hu'
  cases hu'
  have := huv hreq
  rw [h] at this
  cases this

theorem auth_reject_bad_rpIdHash (env : Prog.Env) (rp : RP) (o : RequestOptions) (a : Assertion)
    (get : Bytes → GetOutcome) (ad : AuthData) (rest : Bytes)
    (hu : unmarshalAuthData a.authenticatorData = some (ad, rest)) (h : ad.rpIdHash ≠ Spec.sha256 env rp.id) :
    ∀ c, (Prog.run env (verifyAuthentication rp o a get)).result ≠ .ok c := by
  intro c hc
  obtain ⟨ad', rest', hu', hh, _, _⟩ := ((auth_iff env rp o a get c).mp hc).authData
  rw [hu] at hu'
  cases hu'
  exact h hh

theorem auth_reject_bad_signature (env : Prog.Env) (rp : RP) (o : RequestOptions) (a : Assertion)
    (get : Bytes → GetOutcome) (cred : Credential) (hget : get a.rawId = .found cred)
    (h : ¬ Spec.SigOK env cred.publicKey (a.authenticatorData ++ Spec.sha256 env a.clientDataJSON) a.signature) :
    ∀ c, (Prog.run env (verifyAuthentication rp o a get)).result ≠ .ok c := by
  intro c hc
  have hok := (auth_iff env rp o a get c).mp hc
  have hs := hok.stored
  rw [hget] at hs
  cases hs
  exact h hok.signature

theorem auth_reject_bad_client_data (env : Prog.Env) (rp : RP) (o : RequestOptions) (a : Assertion)
    (get : Bytes → GetOutcome)
    (h : ¬ ∃ cd, Json.clientData a.clientDataJSON = some cd ∧ cd.type = Spec.str "webauthn.get" ∧
          cd.challenge = B64.encode o.challenge ∧ Spec.OriginOK env cd.origin rp.origin) :
    ∀ c, (Prog.run env (verifyAuthentication rp o a get)).result ≠ .ok c := by
  intro c hc
  exact h ((auth_iff env rp o a get c).mp hc).clientData

/-! ### storage calls (C06 for authentication) -/

/-- C06 for authentication: at most one storage call, a read of the response's id, and never a write -/
theorem auth_calls (env : Prog.Env) (rp : RP) (o : RequestOptions) (a : Assertion) (get : Bytes → GetOutcome) :
    (Prog.run env (verifyAuthentication rp o a get)).calls = [] ∨
    (Prog.run env (verifyAuthentication rp o a get)).calls = [Call.get a.rawId] := by
  by_cases hallow : o.allow = [] ∨ a.rawId ∈ o.allow
  · exact .inr (run_post env rp o a get hallow).1
  · rw [run_notAllowed env rp o a get hallow]
    exact .inl rfl

theorem auth_never_writes (env : Prog.Env) (rp : RP) (o : RequestOptions) (a : Assertion) (get : Bytes → GetOutcome) :
    ∀ c, Call.set c ∉ (Prog.run env (verifyAuthentication rp o a get)).calls := by
  intro c
  rcases auth_calls env rp o a get with h | h <;> rw [h] <;> simp

/-- the outcome depends on storage only through the answer for the response's id -/
theorem auth_depends_on_get_rawId (env : Prog.Env) (rp : RP) (o : RequestOptions) (a : Assertion)
    (get get' : Bytes → GetOutcome) (h : get a.rawId = get' a.rawId) :
    Prog.run env (verifyAuthentication rp o a get) = Prog.run env (verifyAuthentication rp o a get') := by
  unfold verifyAuthentication
  rw [h]

/-! ### non-vacuity: a concrete accepted ceremony -/

def exEnv : Prog.Env :=
  ⟨fun q => match q with
    | .sha256 _ => .bytes (List.replicate 32 7)
    | .sigVerify .. => .bool true
    | _ => .none⟩
def exRP : RP := ⟨Spec.str "https://h", Spec.str "h"⟩

/-- the example's origin really parses to the host the example intends -/
theorem ex_host : Url.hostOf (Spec.str "https://h") = some (Spec.str "h") := by decide +kernel
def exOpts : RequestOptions := ⟨[1, 2, 3], [], []⟩
def exCred : Credential := ⟨[1], [], Cose.marshal (.okp (List.replicate 32 1))⟩
/-- the client data of the example: a real JSON document; its challenge member is base64url of the options' challenge -/
def exClientDataJSON : Bytes :=
  Bytes.ofString "{\"type\":\"webauthn.get\",\"challenge\":\"AQID\",\"origin\":\"https://h\"}"
def exAssertion : Assertion := ⟨[1], exClientDataJSON, List.replicate 32 7 ++ [0x01, 0, 0, 0, 0], [], []⟩

/-- `encoding/json` (the Lean model) decodes the example's client data to the intended three members -/
theorem ex_clientData :
    Json.clientData exClientDataJSON = some ⟨Spec.str "webauthn.get", B64.encode exOpts.challenge, Spec.str "https://h"⟩ := by
  decide +kernel
def exGet : Bytes → GetOutcome := fun _ => .found exCred

theorem ex_authOK : Spec.AuthOK exEnv exRP exOpts exAssertion exGet exCred where
  allowed := Or.inl rfl
  stored := rfl
  owner := rfl
  clientData := ⟨_, ex_clientData, rfl, rfl, Spec.str "h", Spec.str "h", ex_host, ex_host, by decide +kernel, Or.inl rfl⟩
  authData := ⟨⟨List.replicate 32 7, 1, 0, none, []⟩, [], by decide, rfl, by decide,
    fun h => absurd h (by decide +kernel)⟩
  signature := ⟨.okp (List.replicate 32 1), [], C11.marshal_parse_roundtrip_okp _ List.length_replicate, .eddsa, 0, rfl, rfl⟩

/-- the conditions of `auth_iff` are satisfiable: the equivalence is not vacuous -/
example : ∃ env rp o a get cred, Spec.AuthOK env rp o a get cred := ⟨_, _, _, _, _, _, ex_authOK⟩

/-- and the ceremony indeed returns the stored credential on that input -/
example : (Prog.run exEnv (verifyAuthentication exRP exOpts exAssertion exGet)).result = .ok exCred :=
  (auth_iff ..).mpr ex_authOK

end WebAuthn.C01

