import WebAuthnModel.Spec.Asn1
import WebAuthnModel.Proofs.KeyDescLemmas
/-
  C17, third clause — `android.UnmarshalKeyDescription` decodes the Keymaster KeyDescription with the published
  context tags into the corresponding fields and is the inverse of `Marshal` — for the Lean model of Go's
  `encoding/asn1` (Model/Asn1.lean) instantiated with the schemas regenerated from /repo's source; plus the
  byte-level meaning of the AAGUID and Apple-nonce extension decoders used by C04.
-/
namespace WebAuthn.Theorems.C17Asn1
open WebAuthn.Asn1 WebAuthn.KeyDesc WebAuthn.Spec.Asn1

/-! ## The schema the code declares is the published one (regenerated fact, pinned) -/

theorem authList_schema_published :
    Generated.Asn1Schema.authorizationList.map (fun f => (f.name, f.tag, f.ty)) =
      publishedAuthList.map (fun p => (p.1, some p.2.1, p.2.2)) ∧
    Generated.Asn1Schema.authorizationList.all (fun f => f.explicit && f.optional) = true ∧
    (Generated.Asn1Schema.authorizationList.filter (fun f => f.set)).map (·.name) = ["Purpose", "Digest", "Padding"] := by
  exact ⟨rfl, rfl, rfl⟩

theorem keyDescription_schema_published :
    Generated.Asn1Schema.keyDescription =
      [⟨"AttestationVersion", .int, none, false, false, false⟩, ⟨"AttestationSecurityLevel", .enum, none, false, false, false⟩,
       ⟨"KeyMasterVersion", .int, none, false, false, false⟩, ⟨"KeyMasterSecurityLevel", .enum, none, false, false, false⟩,
       ⟨"AttestationChallenge", .bytes, none, false, false, false⟩, ⟨"UniqueID", .bytes, none, false, false, false⟩,
       ⟨"SoftwareEnforced", .struct "AuthorizationList", none, false, false, false⟩,
       ⟨"TeeEnforced", .struct "AuthorizationList", none, false, false, false⟩] ∧
    Generated.Asn1Schema.rootOfTrust =
      [⟨"VerifiedBootKey", .bytes, none, false, false, false⟩, ⟨"DeviceLocked", .bool, none, false, false, false⟩,
       ⟨"VerifiedBootState", .enum, none, false, false, false⟩, ⟨"VerifiedBootHash", .bytes, none, false, false, false⟩] ∧
    Generated.Asn1Schema.appleAnonymousAttestation = [⟨"Nonce", .bytes, some 1, true, false, false⟩] ∧
    Generated.Asn1Schema.decoderCalls =
      [("UnmarshalKeyDescription", "asn1.Unmarshal([]byte,*android.KeyDescription)"),
       ("getCertificateAppleNonce", "asn1.Unmarshal([]byte,*webauthn.appleAnonymousAttestation)"),
       ("getCertificateAAGUID", "asn1.Unmarshal([]byte,*[]byte)")] := by
  exact ⟨rfl, rfl, rfl, rfl⟩

/-! ## Framing: the header parser is strict DER and `encTL` is its inverse -/

/-- a parsed header is a proper prefix: 2..11 bytes, tag number and length below 2³¹ -/
theorem parseTL_prefix (b r : Bytes) (t : TL) (h : parseTL b = some (t, r)) :
    ∃ hdr, b = hdr ++ r ∧ 2 ≤ hdr.length ∧ hdr.length ≤ 11 ∧ t.cls < 4 ∧ t.tag < 2 ^ 31 ∧ t.len < 2 ^ 31 := by
  obtain ⟨hb, hc, ht, hl⟩ := Proofs.Asn1Lemmas.parseTL_canonical' b r t h
  have := Proofs.Asn1Lemmas.encTL_length t.cls t.tag t.len t.compound ht hl
  exact ⟨_, hb, this.1, this.2, hc, ht, hl⟩

/-- canonical: the only header bytes that parse to `t` are `encTL t` (minimal tag and length octets) -/
theorem parseTL_canonical (b r : Bytes) (t : TL) (h : parseTL b = some (t, r)) :
    b = encTL t.cls t.compound t.tag t.len ++ r := by
  exact (Proofs.Asn1Lemmas.parseTL_canonical' b r t h).1

theorem parseTL_encTL (cls tag len : Nat) (compound : Bool) (rest : Bytes)
    (hc : cls < 4) (ht : tag < 2 ^ 31) (hl : len < 2 ^ 31) :
    parseTL (encTL cls compound tag len ++ rest) = some (⟨cls, compound, tag, len⟩, rest) := by
  exact Proofs.Asn1Lemmas.parseTL_encTL' cls tag len compound rest hc ht hl

/-! ## INTEGER contents -/

theorem parseInt64_encInt (i : Int) (h : Int64 i) : parseInt64 (encInt i) = some i := by
  exact Proofs.Asn1Lemmas.parseInt64_encInt' i h

/-- DER integers are canonical: what parses to `i` is `encInt i` -/
theorem encInt_of_parseInt64 (b : Bytes) (i : Int) (h : parseInt64 b = some i) : encInt i = b ∧ Int64 i := by
  exact Proofs.Asn1Lemmas.encInt_of_parseInt64' b i h

theorem parseInt32_iff (b : Bytes) (i : Int) : parseInt32 b = some i ↔ parseInt64 b = some i ∧ Int32 i := by
  unfold parseInt32 Spec.Asn1.Int32
  cases parseInt64 b with
  | none => simp
  | some v =>
    simp only [Option.some.injEq]
    split
    · exact ⟨fun h => ⟨Option.some.inj h, Option.some.inj h ▸ ‹_›⟩, fun h => congrArg some h.1⟩
    · exact ⟨fun h => absurd h (by simp), fun h => absurd (h.1 ▸ h.2) ‹_›⟩

/-- the element loop never runs out of fuel: any fuel ≥ the input's length gives the same answer -/
theorem parseInts_fuel (b : Bytes) (n : Nat) (h : b.length ≤ n) : parseInts n b = parseInts b.length b := by
  exact Proofs.Asn1Lemmas.parseInts_fuel_gen n b.length b h (Nat.le_refl _)

/-! ## The NULL-typed members (recorded finding D14, as theorems about the model of the code) -/

/-- Go's own spelling of a set flag, `[tg] { BOOLEAN, length 0 }`, reads as true and moves the cursor past it -/
theorem go_flag_reads_true {σ : Type} (sub : String → Option (SubOps σ)) (f : Field) (tg : Nat) (rest : Bytes)
    (hty : f.ty = .flag) (hex : f.explicit = true) (htag : f.tag = some tg) (htg : tg < 2 ^ 31) :
    parseField sub f (encTL 2 true tg 2 ++ [0x01, 0x00] ++ rest) = some (.prim (.bool true), rest) := by
  have hu : universal f = (1, false) := by simp [universal, hty]
  have h := Proofs.Asn1Lemmas.parseField_explicit sub f tg [] rest (.prim (.bool true)) hex htag htg
    (Nat.lt_of_le_of_lt (Proofs.Asn1Lemmas.innerOf_length f []).2 (by decide)) (by simp [parseContents, hty])
  rw [Proofs.Asn1Lemmas.innerOf, hu] at h
  exact h

/-- the published spelling, `[tg] EXPLICIT NULL`, is *not* read: the member keeps false and the cursor does not move -/
theorem explicit_null_not_read {σ : Type} (sub : String → Option (SubOps σ)) (f : Field) (tg : Nat) (rest : Bytes)
    (hty : f.ty = .flag) (hex : f.explicit = true) (hopt : f.optional = true) (htag : f.tag = some tg) (htg : tg < 2 ^ 31) :
    parseField sub f (encTL 2 true tg 2 ++ [0x05, 0x00] ++ rest) =
      some (.prim (.bool false), encTL 2 true tg 2 ++ [0x05, 0x00] ++ rest) := by
  have h5 : parseTL ([0x05, 0x00] ++ rest) = some (⟨0, false, 5, 0⟩, rest) :=
    Proofs.Asn1Lemmas.parseTL_tlv 0 5 false [] rest (by omega) (by omega) (by decide)
  rw [show encTL 2 true tg 2 ++ [0x05, 0x00] ++ rest = Proofs.Asn1Lemmas.tlv 2 true tg [0x05, 0x00] ++ rest from rfl,
    Proofs.Asn1Lemmas.parseField_of_parseTL sub f
      (Proofs.Asn1Lemmas.parseTL_tlv 2 tg true [0x05, 0x00] rest (by omega) htg (by decide)),
    Proofs.Asn1Lemmas.pfElem, if_pos hex, if_neg (by simp), if_pos ⟨rfl, htag.symm, Or.inr rfl⟩, if_pos (by simp), h5]
  -- the child is a NULL, not the BOOLEAN a flag member is read from: the member keeps its default
  simp [Proofs.Asn1Lemmas.pfGo, universal, hty, Proofs.Asn1Lemmas.pfDflt, hopt, zeroOf]

/-- …and the cursor then stalls there: whatever follows an `EXPLICIT NULL` element with a flag member's tag, the whole
    list decodes as if it were empty from that element on.  Stated for the list under the cursor at its first member. -/
theorem authList_stalls_at_explicit_null (tg : Nat) (htg : tg ∈ flagTags) (rest : Bytes) :
    parseFields alSub Generated.Asn1Schema.authorizationList (encTL 2 true tg 2 ++ [0x05, 0x00] ++ rest) = some zeroAuthList := by
  rw [Proofs.Asn1Lemmas.zeroAuthList_eq]
  apply Proofs.Asn1Lemmas.parseFields_stall
  intro f hf
  obtain ⟨⟨hex, hopt, tgf, htag, htgf⟩, hn, hfl⟩ := Proofs.Asn1Lemmas.authList_fields f hf
  by_cases he : tgf = tg
  · subst he
    have hty := hfl tgf htg htag
    rw [explicit_null_not_read alSub f tgf rest hty hex hopt htag htgf]
    simp [Proofs.Asn1Lemmas.zeroMember, hty]
  · have htg31 : tg < 2 ^ 31 := by
      simp only [flagTags, List.mem_cons, List.mem_nil_iff, or_false] at htg
      omega
    rw [show encTL 2 true tg 2 ++ [0x05, 0x00] ++ rest = Proofs.Asn1Lemmas.tlv 2 true tg [0x05, 0x00] ++ rest from rfl,
      Proofs.Asn1Lemmas.parseField_skip alSub f tgf tg _ _ hex htag (fun e => he e.symm) htg31 (by decide) (by simp)]
    simp [Proofs.Asn1Lemmas.pfDflt, hopt, Proofs.Asn1Lemmas.zeroOf_alSub f hn]

/-- concrete witnesses: a description whose TEE list carries allApplications as `[600] EXPLICIT NULL` … -/
def kdHead : Bytes :=
  [0x02, 0x01, 0x03, 0x0a, 0x01, 0x01, 0x02, 0x01, 0x04, 0x0a, 0x01, 0x01, 0x04, 0x02, 0xaa, 0xbb, 0x04, 0x00, 0x30, 0x00]

def kdNullAllApps : Bytes := [0x30, 0x1c] ++ kdHead ++ [0x30, 0x06, 0xbf, 0x84, 0x58, 0x02, 0x05, 0x00]
def kdGoAllApps : Bytes := [0x30, 0x1c] ++ kdHead ++ [0x30, 0x06, 0xbf, 0x84, 0x58, 0x02, 0x01, 0x00]
/-- `[503] EXPLICIT NULL` (noAuthRequired) followed by `[702] EXPLICIT INTEGER 2` (origin IMPORTED) -/
def kdNullThenOrigin : Bytes :=
  [0x30, 0x23] ++ kdHead ++ [0x30, 0x0d, 0xbf, 0x83, 0x77, 0x02, 0x05, 0x00, 0xbf, 0x85, 0x3e, 0x03, 0x02, 0x01, 0x02]
def kdGoThenOrigin : Bytes :=
  [0x30, 0x23] ++ kdHead ++ [0x30, 0x0d, 0xbf, 0x83, 0x77, 0x02, 0x01, 0x00, 0xbf, 0x85, 0x3e, 0x03, 0x02, 0x01, 0x02]

theorem d14_allApplications_witness :
    (KeyDesc.view kdNullAllApps).map (·.teeAllApplications) = some false ∧
    (KeyDesc.view kdGoAllApps).map (·.teeAllApplications) = some true := by
  constructor <;> decide +kernel

theorem d14_origin_witness :
    (KeyDesc.view kdNullThenOrigin).map (·.teeOrigin) = some 0 ∧
    (KeyDesc.view kdGoThenOrigin).map (·.teeOrigin) = some 2 := by
  constructor <;> decide +kernel

/-! ## Unmarshal is the inverse of Marshal -/

/-- Every well-formed key description is written by `Marshal`, and (when the encoding is shorter than 2³¹ bytes, the
    largest length the decoder accepts) `Unmarshal` reads exactly that value back with nothing left over — also when
    other bytes follow. -/
theorem unmarshal_marshal (v : KDVal) (h : WFKD v) :
    ∃ b, KeyDesc.marshal v = some b ∧
      (b.length < 2 ^ 31 → ∀ rest, KeyDesc.unmarshal (b ++ rest) = some (v, rest)) := by
  obtain ⟨body, hm, hp⟩ := Proofs.Asn1Lemmas.kd_fields_roundtrip v h
  exact Proofs.Asn1Lemmas.struct_roundtrip kdSub _ v body hm (fun hl => by simpa using hp hl [])

/-- non-vacuity: a description with members of every kind present is well-formed -/
def exampleKD : KDVal :=
  let al (all : Bool) (origin : Int) : AuthListVal :=
    Generated.Asn1Schema.authorizationList.map fun f =>
      if f.name = "Purpose" then .prim (.ints (some [2, 3]))
      else if f.name = "AllApplications" then .prim (.bool all)
      else if f.name = "Origin" then .prim (.int origin)
      else if f.name = "KeySize" then .prim (.int 256)
      else if f.name = "AttestationIDBrand" then .prim (.bytes (some [0x67]))
      else if f.name = "RootOfTrust" then .sub [.prim (.bytes (some [1, 2])), .prim (.bool true), .prim (.int 0), .prim (.bytes (some []))]
      else match f.ty with
        | .int | .enum => .prim (.int 0)
        | .flag | .bool => .prim (.bool false)
        | .bytes => .prim (.bytes none)
        | .intList => .prim (.ints none)
        | .struct _ => .sub zeroRot
  [.prim (.int 3), .prim (.int 1), .prim (.int 4), .prim (.int 1), .prim (.bytes (some [0xaa, 0xbb])), .prim (.bytes (some [])),
   .sub (al false 0), .sub (al true (-129))]

theorem exampleKD_wf : WFKD exampleKD := by
  have hints : WFInts [2, 3] := by
    refine ⟨?_, by decide +kernel⟩
    intro i hi
    simp only [List.mem_cons, List.mem_nil_iff, or_false] at hi
    unfold Spec.Asn1.Int64
    omega
  have hrot : WFRot [.prim (.bytes (some [1, 2])), .prim (.bool true), .prim (.int 0), .prim (.bytes (some []))] :=
    ⟨_, _, _, _, rfl, by unfold Spec.Asn1.Int32; omega⟩
  refine ⟨3, 1, 4, 1, [0xaa, 0xbb], [], _, _, rfl, ?_, ?_, ?_, ?_, ?_, ?_⟩
  · unfold Spec.Asn1.Int64; omega
  · unfold Spec.Asn1.Int32; omega
  · unfold Spec.Asn1.Int64; omega
  · unfold Spec.Asn1.Int32; omega
  · simp [WFAuthList, WFFields, Generated.Asn1Schema.authorizationList, WFAuthField, Spec.Asn1.Int64, hints, hrot]
  · simp [WFAuthList, WFFields, Generated.Asn1Schema.authorizationList, WFAuthField, Spec.Asn1.Int64, hints, hrot]

/-! ## The two small decoders, at byte level (used by C04's packed and apple requirements) -/

/-- the AAGUID extension value is accepted exactly when it is one primitive universal OCTET STRING and nothing else -/
theorem octetStringExact_iff (b v : Bytes) :
    KeyDesc.octetStringExact b = some v ↔ (b = encTL 0 false 4 v.length ++ v ∧ v.length < 2 ^ 31) := by
  unfold KeyDesc.octetStringExact
  constructor
  · intro h
    split at h
    · rename_i v' heq
      obtain rfl := Option.some.inj h
      have := (Proofs.Asn1Lemmas.unmarshalOctetString_iff _ _ _).mp heq
      rwa [List.append_nil] at this
    · exact absurd h (by simp)
  · rintro ⟨rfl, hl⟩
    rw [show encTL 0 false 4 v.length ++ v = Proofs.Asn1Lemmas.tlv 0 false 4 v from rfl,
      (Proofs.Asn1Lemmas.unmarshalOctetString_iff _ v []).mpr ⟨(List.append_nil _).symm, hl⟩]

/-- what the Apple nonce decoder accepts: a SEQUENCE whose first element is `[1]` (constructed, context class, non-empty)
    whose first child is a primitive OCTET STRING — the nonce.  Bytes after that child (inside the wrapper or the SEQUENCE)
    and after the SEQUENCE are ignored. -/
theorem appleNonce_some (b v : Bytes) (h : KeyDesc.appleNonce b = some v) :
    ∃ l l1 junk rest, b = encTL 0 true 16 l ++ (encTL 2 true 1 l1 ++ encTL 0 false 4 v.length ++ v ++ junk) ++ rest ∧
      l = (encTL 2 true 1 l1 ++ encTL 0 false 4 v.length ++ v ++ junk).length ∧ 0 < l1 := by
  unfold KeyDesc.appleNonce at h
  rw [Proofs.Asn1Lemmas.apple_schema] at h
  cases hu : unmarshalStruct noSub [Proofs.Asn1Lemmas.nonceField] b with
  | none => simp [hu] at h
  | some q =>
    obtain ⟨vs, rest⟩ := q
    obtain ⟨body, rfl, hpf⟩ := Proofs.Asn1Lemmas.unmarshalStruct_some noSub _ b rest vs hu
    simp only [parseFields] at hpf
    cases hf : parseField noSub Proofs.Asn1Lemmas.nonceField body with
    | none => simp [hf] at hpf
    | some p =>
      obtain ⟨x, junk⟩ := p
      obtain ⟨l1, c, rfl, hl1, hpc⟩ :=
        Proofs.Asn1Lemmas.parseField_explicit_some noSub _ 1 body junk x rfl rfl rfl (by decide) hf
      obtain rfl : FV.prim (.bytes (some c)) = x := Option.some.inj hpc
      obtain rfl : [FV.prim (.bytes (some c))] = vs := by simpa [hf] using hpf
      obtain rfl : c = v := by simpa [hu] using h
      refine ⟨_, l1, junk, rest, ?_, rfl, hl1⟩
      simp [Proofs.Asn1Lemmas.tlv, Proofs.Asn1Lemmas.innerOf, universal, Proofs.Asn1Lemmas.nonceField]

theorem appleNonce_canonical (v rest : Bytes) (hv : v.length < 2 ^ 30) :
    KeyDesc.appleNonce
      (encTL 0 true 16 (encTL 2 true 1 (encTL 0 false 4 v.length ++ v).length ++ encTL 0 false 4 v.length ++ v).length ++
        (encTL 2 true 1 (encTL 0 false 4 v.length ++ v).length ++ encTL 0 false 4 v.length ++ v) ++ rest) = some v := by
  have hi := Proofs.Asn1Lemmas.innerOf_length Proofs.Asn1Lemmas.nonceField v
  have h2 := Proofs.Asn1Lemmas.tlv_length_le 2 1 true (Proofs.Asn1Lemmas.innerOf Proofs.Asn1Lemmas.nonceField v) (by omega)
  have hpf := Proofs.Asn1Lemmas.parseField_explicit noSub Proofs.Asn1Lemmas.nonceField 1 v [] (.prim (.bytes (some v)))
    rfl rfl (by omega) (by omega) rfl
  rw [List.append_nil] at hpf
  have := Proofs.Asn1Lemmas.unmarshalStruct_tlv noSub Generated.Asn1Schema.appleAnonymousAttestation _ rest _ (by omega)
    (Proofs.Asn1Lemmas.parseFields_cons _ _ _ _ _ _ _ hpf rfl)
  rw [List.append_assoc (encTL 2 true 1 _)]
  show KeyDesc.appleNonce (Proofs.Asn1Lemmas.tlv 0 true 16
    (Proofs.Asn1Lemmas.tlv 2 true 1 (Proofs.Asn1Lemmas.innerOf Proofs.Asn1Lemmas.nonceField v)) ++ rest) = some v
  rw [KeyDesc.appleNonce, this]

end WebAuthn.Theorems.C17Asn1
